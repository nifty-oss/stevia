import Stevia.ModelAll
import Stevia.Model.Fuel
import Stevia.Model.HashSetImpTerm
import Stevia.Model.TreeImpTerm
import Stevia.Model.Views
import Stevia.Generated.ASet
import Stevia.Generated.Avl32Alloc
import Stevia.Generated.Avl32Bal
import Stevia.Generated.Avl32Open
import Stevia.Generated.Avl32Ops
import Stevia.Generated.Avl32Query
import Stevia.Generated.Avl8Alloc
import Stevia.Generated.Avl8Bal
import Stevia.Generated.Avl8Open
import Stevia.Generated.Avl8Ops
import Stevia.Generated.Avl8Query
import Stevia.Generated.Facts
import Stevia.Generated.HSet
import Stevia.Generated.PStr
import Stevia.Generated.Pod
import Stevia.Generated.PodStr
import Stevia.Generated.Views
import Stevia.Proofs.ArraySearch
import Stevia.Proofs.ArraySetState
import Stevia.Proofs.Bytes
import Stevia.Proofs.BytesRT
import Stevia.Proofs.Codec
import Stevia.Proofs.ExecInv
import Stevia.Proofs.GenASet
import Stevia.Proofs.GenASetRefine
import Stevia.Proofs.GenHSet
import Stevia.Proofs.GenHSetIter
import Stevia.Proofs.GenHSetRun
import Stevia.Proofs.GenLemmas
import Stevia.Proofs.GenPod
import Stevia.Proofs.GenStr
import Stevia.Proofs.GenTreeAlloc
import Stevia.Proofs.GenTreeBal
import Stevia.Proofs.GenTreeOpen
import Stevia.Proofs.GenTreeOps
import Stevia.Proofs.GenTreeQuery
import Stevia.Proofs.GenTreeRefine
import Stevia.Proofs.GenTreeStep
import Stevia.Proofs.GenViews
import Stevia.Proofs.GenViewsFmt
import Stevia.Proofs.HashSetImpEq
import Stevia.Proofs.HashSetImpMem
import Stevia.Proofs.HashSetImpTerm
import Stevia.Proofs.HashSetLayoutRT
import Stevia.Proofs.HashSetState
import Stevia.Proofs.SlotAlloc
import Stevia.Proofs.StrState
import Stevia.Proofs.TreeAvl
import Stevia.Proofs.TreeDefs
import Stevia.Proofs.TreeImpEq
import Stevia.Proofs.TreeImpInsert
import Stevia.Proofs.TreeImpLoop
import Stevia.Proofs.TreeImpMem
import Stevia.Proofs.TreeImpPhases
import Stevia.Proofs.TreeImpRebal
import Stevia.Proofs.TreeImpRemove
import Stevia.Proofs.TreeImpRep
import Stevia.Proofs.TreeImpTerm
import Stevia.Proofs.TreeLayoutRT
import Stevia.Proofs.TreeState
import Stevia.Props.C01
import Stevia.Props.C02
import Stevia.Props.C03
import Stevia.Props.C04
import Stevia.Props.C05
import Stevia.Props.C06
import Stevia.Props.C07
import Stevia.Props.C08
import Stevia.Props.C09
import Stevia.Props.C10
import Stevia.Props.C11
import Stevia.Props.C12
import Stevia.Props.C13
import Stevia.Props.C14
import Stevia.Props.C15
