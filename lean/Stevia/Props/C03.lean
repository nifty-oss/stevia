/-
  C03 — the array set behaves as a sorted set; its slice view is always strictly ascending.
-/
import Stevia.Proofs.GenASetRefine

namespace Stevia.C03
variable {α κ : Type} [LinOrd κ]

/-- Every history of insert / take(remove) / get / contains / len on an array set over a
    zero-filled buffer of `n` slots with a prefix type of maximum `P` answers exactly as the reference
    sorted set bounded by `min n P`, never faults, and the view stays the reference's member list. -/
theorem refines (key : α → κ) (P : Nat) (d : α) (n : Nat) (ops : List (ASOp α κ)) :
    ∃ s', ({ len := 0, vals := List.replicate n d } : ASet α).opRun key P ops
        = .ok (s', (BSorted.run key (min n P) [] ops).2) ∧
      s'.view = (BSorted.run key (min n P) [] ops).1 ∧ AscK (s'.view.map key) := by
  have hi := ASet.inv_zero key P d n
  obtain ⟨s', h1, h2, h3⟩ := ASet.opRun_refines hi ops
  have hv : ({ len := 0, vals := List.replicate n d } : ASet α).view = [] := by simp [ASet.view]
  have hs : ({ len := 0, vals := List.replicate n d } : ASet α).slots = n := by simp [ASet.slots]
  rw [hv, hs] at h1 h3
  exact ⟨s', h1, h3, h2.sorted⟩

/-- From any well-formed set. -/
theorem refines_from {key : α → κ} {P : Nat} {s : ASet α} (h : s.Inv key P) (ops : List (ASOp α κ)) :
    ∃ s', s.opRun key P ops = .ok (s', (BSorted.run key (min s.slots P) s.view ops).2) ∧ s'.Inv key P ∧
      s'.view = (BSorted.run key (min s.slots P) s.view ops).1 :=
  ASet.opRun_refines h ops

/-- Every state reachable from a zero-filled buffer by inserts, takes, order-preserving updates and
    buffer growth is well-formed: its view is strictly ascending and every history from it refines. -/
theorem reachable_view_ascending {key : α → κ} {P : Nat} {d : α} {s : ASet α} (h : ASet.Reach key P d s) :
    AscK (s.view.map key) ∧ s.len ≤ s.slots := ⟨(ASet.reach_inv h).sorted, (ASet.reach_inv h).len_le⟩

/-- The slice the set dereferences to is strictly ascending in every well-formed state. -/
theorem view_ascending {key : α → κ} {P : Nat} {s : ASet α} (h : s.Inv key P) : AscK (s.view.map key) := h.sorted

/-- `take` returns the *stored* element (for element types whose order ignores part of the value). -/
theorem take_returns_stored {key : α → κ} {P : Nat} {s : ASet α} (h : s.Inv key P) (k : κ) :
    ∃ s', s.take key k = .ok (s', findK key k s.view) := by
  rcases ASet.take_spec h k with ⟨h1, h2⟩ | ⟨y, s', h1, h2, _⟩
  · exact ⟨s, by rw [h2, h1]⟩
  · exact ⟨s', by rw [h2, h1]⟩

/-- Updates made through `get_mut` that keep the ordering are visible afterwards and keep the set
    well-formed. -/
theorem update_visible {key : α → κ} {P : Nat} {s : ASet α} (h : s.Inv key P) (k : κ) (y' : α)
    (hk : sameK (key y') k) (hp : (findK key k s.view).isSome) :
    ∃ s', s.update key k y' = .ok (s', true) ∧ s'.view = setK key k y' s.view ∧ s'.Inv key P := by
  rcases ASet.update_spec h k y' with ⟨h1, _⟩ | ⟨_, s', h2, h3, _⟩
  · rw [h1] at hp; cases hp
  · exact ⟨s', h2, h3, ASet.update_same_key h k y' hk h2⟩

/-! ### Tie through the translator

`Stevia.GenA.*` is regenerated from `array_set.rs` on every run (tools/rust2lean.py): the binary-search loop, the
bounds-checked accesses and the two `ptr::copy` shifts as the source has them. -/

/-- The translated `index`, `get`, `contains`, `insert`, `take`, `remove` and `get_mut` + write are the model's
    functions (a failing bounds check or an out-of-range copy is `none` / `Except.error`), for every set whose length
    prefix does not exceed its slot count, every element and every prefix maximum `P`. -/
theorem translated_source_is_the_model (key : α → κ) (P : Nat) (m : ASet α) (hle : m.len ≤ m.vals.length) (x y : α) :
    GenA.index key P m x = (ASet.index key m (key x)).toOption.map Idx.pair ∧
    GenA.get key P m x = (ASet.get key m (key x)).toOption ∧
    GenA.contains key P m x = (ASet.contains key m (key x)).toOption ∧
    GenA.insert key P m x = (ASet.insert key P m x).toOption ∧
    GenA.take key P m x = (ASet.take key m (key x)).toOption ∧
    GenA.remove key P m x = ((ASet.take key m (key x)).toOption).map (fun r => (r.1, r.2.isSome)) ∧
    (GenA.get_mut key P m x).map (fun r => match r.2 with
      | some i => ({ m with vals := m.vals.set i y }, true)
      | none => (m, false)) = (ASet.update key m (key x) y).toOption ∧
    GenA.len key P m = m.len ∧ GenA.is_full key P m = m.isFull P ∧ GenA.is_empty key P m = m.isEmpty :=
  ⟨GenA.index_eq key P m hle x, GenA.get_eq key P m hle x, GenA.contains_eq key P m hle x,
   GenA.insert_eq key P m hle x, GenA.take_eq key P m hle x, GenA.remove_eq key P m hle x,
   GenA.get_mut_eq key P m hle x y, GenA.len_eq key P m hle, GenA.is_full_eq key P m hle, GenA.is_empty_eq key P m hle⟩

/-- On every well-formed set the translated `insert` / `take` return normally with the model's state and answer
    (hence, by `refines_from`, the reference sorted set's), and lookups return the stored member. -/
theorem translated_source_refines {key : α → κ} {P : Nat} {s : ASet α} (h : s.Inv key P) (x : α) :
    (∃ s' r, GenA.insert key P s x = some (s', r) ∧ s.insert key P x = .ok (s', r) ∧ s'.Inv key P) ∧
    (∃ s' r, GenA.take key P s x = some (s', r) ∧ s.take key (key x) = .ok (s', r) ∧ s'.Inv key P) ∧
    GenA.get key P s x = some (findK key (key x) s.view) := by
  obtain ⟨s1, r1, a1, b1, c1, _⟩ := GenA.insert_refines h x
  obtain ⟨s2, r2, a2, b2, c2, _⟩ := GenA.take_refines h x
  exact ⟨⟨s1, r1, a1, b1, c1⟩, ⟨s2, r2, a2, b2, c2⟩, (GenA.get_refines h x).1⟩

/-- Whole histories through the translator: from a zero-filled buffer of `n` slots, any history of element-indexed
    operations (`insert x`, `take x`, `get x`, `contains x`, `len` — lookups compare through `key`) run through the
    *translated source* answers at every step `some` of the model's answer (hence, by `refines`, the reference sorted
    set's bounded by `min n P`) — no failed bounds check, no raw copy out of range, no loop that runs on — and ends in
    the model's final state. -/
theorem translated_history (key : α → κ) (P : Nat) (d : α) (n : Nat) (ops : List (GenA.EOp α)) :
    ∃ s' outs,
      ({ len := 0, vals := List.replicate n d } : ASet α).opRun key P (ops.map (GenA.EOp.toAS key)) = .ok (s', outs) ∧
      GenA.runImg key P ({ len := 0, vals := List.replicate n d } : ASet α) ops = some (s', outs) := by
  obtain ⟨s', outs, h1, _, h3⟩ := GenA.run_refines (ASet.inv_zero key P d n) ops
  exact ⟨s', outs, h1, h3⟩

/-- The slice the *translated* `Deref` hands out is, on every well-formed set, exactly the model's view (strictly
    ascending by `view_ascending`); on any buffer at all it is taken without a panic. -/
theorem translated_view {key : α → κ} {P : Nat} {s : ASet α} (h : s.Inv key P) :
    GenA.deref key P s = some s.view ∧ AscK (s.view.map key) :=
  ⟨(GenA.deref_eq key P s).2 h.len_le, h.sorted⟩

end Stevia.C03
