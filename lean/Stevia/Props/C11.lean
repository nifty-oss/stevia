/-
  C11 — every str handed out by the safe API is valid UTF-8.
-/
import Stevia.Proofs.GenStr

namespace Stevia.C11

/-- Buffers behind a handle of the safe prefixed-string API: obtained from `new` returning `Ok`,
    then any sequence of `copy_from_str` (deref / deref_mut / as_str hand out the payload). -/
inductive Safe (w P : Nat) : ByteArray → Prop where
  | new (buf b' : ByteArray) (h : PStr.new w P buf = .ok (b', true)) : Safe w P b'
  | copy (b : ByteArray) (s : String) (h : Safe w P b) : Safe w P (PStr.copyFromStr w b s)

/-- In every state reachable through the safe API — any buffer size, any sequence of copies, in
    particular after copying a string that does not fit and has to be cut — the string handed
    out (the payload) is valid UTF-8. -/
theorem prefix_str_valid (w P : Nat) (hP : P < 256 ^ w) (b : ByteArray) (h : Safe w P b) :
    (PStr.payload w b).IsValidUTF8 ∧ w ≤ b.size ∧ PStr.recLen w b ≤ b.size - w := by
  induction h with
  | new buf b' h =>
    rcases PStr.new_spec w P hP buf with ⟨_, h2⟩ | ⟨hw, b2, r, h2, hs, hl, _, _, hv⟩
    · rw [h2] at h; cases h
    · rw [h2] at h
      cases h
      refine ⟨hv.1 rfl, by omega, ?_⟩
      rw [hl, hs]; exact Nat.min_le_left _ _
  | copy b s _ ih =>
    obtain ⟨_, hw, hl⟩ := ih
    have hc := PStr.copy_spec w b s hw hl
    refine ⟨PStr.copy_valid w b s hw hl, by rw [hc.1]; exact hw, ?_⟩
    rw [hc.2.1, hc.1]; exact hl

/-- The two widths of the crate. -/
theorem u8_prefix_str_valid (b : ByteArray) (h : Safe 1 255 b) : (PStr.payload 1 b).IsValidUTF8 :=
  (prefix_str_valid 1 255 (by decide) b h).1

theorem u16_prefix_str_valid (b : ByteArray) (h : Safe 2 65535 b) : (PStr.payload 2 b).IsValidUTF8 :=
  (prefix_str_valid 2 65535 (by decide) b h).1

/-- Loading from arbitrary bytes: `Ok` exactly for a valid payload (and then the string is the
    payload), refused with an error otherwise. -/
theorem load_ok_iff_valid (w : Nat) (buf : ByteArray) (hw : w ≤ buf.size) (hl : PStr.recLen w buf ≤ buf.size - w) :
    ((PStr.payload w buf).IsValidUTF8 → PStr.fromBytes w buf = .ok (some (PStr.payload w buf))) ∧
    (¬ (PStr.payload w buf).IsValidUTF8 → PStr.fromBytes w buf = .ok none) := by
  obtain ⟨h1, h2⟩ := PStr.fromBytes_spec w buf hw hl
  constructor
  · intro hv; rw [h1, if_pos (h2.2 hv)]
  · intro hv
    rw [h1, if_neg (fun h => hv (h2.1 h))]

/-- `new` is `Ok` exactly for a valid payload area. -/
theorem new_ok_iff_valid (w P : Nat) (hP : P < 256 ^ w) (buf b' : ByteArray) (r : Bool)
    (h : PStr.new w P buf = .ok (b', r)) : r = true ↔ (PStr.payload w b').IsValidUTF8 := by
  rcases PStr.new_spec w P hP buf with ⟨_, h2⟩ | ⟨_, b2, r2, h2, _, _, _, _, hv⟩
  · rw [h2] at h; cases h
  · rw [h2] at h; cases h; exact hv

/-- `PodStr::as_str` over arbitrary bytes: whatever it returns as `Ok` is valid UTF-8 (the text before
    the first NUL), and it is an error exactly when that text is not valid. -/
theorem pod_str_as_str (v : ByteArray) :
    (PodStr.asStr v = some (PodStr.text v) ∧ (PodStr.text v).IsValidUTF8) ∨
    (PodStr.asStr v = none ∧ ¬ (PodStr.text v).IsValidUTF8) := PodStr.asStr_spec v

/-- Non-vacuity: `new` over a 3-byte zero buffer succeeds structurally (size kept, length 2 recorded). -/
example : ∃ b' r, PStr.new 1 255 (zerosBA 3) = .ok (b', r) ∧ b'.size = 3 ∧ PStr.recLen 1 b' = 2 := by
  rcases PStr.new_spec 1 255 (by decide) (zerosBA 3) with ⟨h1, _⟩ | ⟨_, b2, r2, h2, hs, hl, _⟩
  · rw [zerosBA_size] at h1; omega
  · refine ⟨b2, r2, h2, ?_, ?_⟩
    · rw [hs, zerosBA_size]
    · rw [hl, zerosBA_size]; decide

/-! ### Tie through the translator

`Stevia.GenP.*` / `Stevia.GenS.*` are regenerated from `prefix_str.rs` / `pod_str.rs` on every run. -/

/-- The translated constructors and loaders are the model's: `from_bytes` and `new` answer `Ok` exactly when the model
    does, panic (`none`) exactly where it faults, and the string `new` hands out is the payload of the buffer it
    leaves; `PodStr::as_str` is the model's `asStr`. -/
theorem translated_source_is_the_model (W P N : Nat) (hP : P < 256 ^ W) (bytes : ByteArray) :
    GenP.from_bytes W P N bytes = (PStr.fromBytes W bytes).toOption ∧
    (GenP.new W P N bytes).map (fun r => (r.1, r.2.isSome)) = (PStr.new W P bytes).toOption ∧
    (∀ d' v, GenP.new W P N bytes = some (d', some v) → v = PStr.payload W d') ∧
    (bytes.size = N → GenS.as_str W P N bytes = some (PodStr.asStr bytes)) :=
  ⟨GenP.from_bytes_eq W P N bytes, GenP.new_eq W P N hP bytes, fun d' v h => GenP.new_value W P N hP bytes d' v h,
   fun hv => GenS.as_str_eq W P N bytes hv⟩

/-- Whatever the translated `new` hands out as `Ok` is valid UTF-8. -/
theorem translated_new_valid (W P N : Nat) (hP : P < 256 ^ W) (data d' v : ByteArray)
    (h : GenP.new W P N data = some (d', some v)) : v.IsValidUTF8 := by
  have he := GenP.new_eq W P N hP data
  rw [h] at he
  cases hn : PStr.new W P data with
  | error e => rw [hn] at he; cases he
  | ok pr =>
    rw [hn] at he
    cases he
    rw [GenP.new_value W P N hP data d' v h]
    exact (new_ok_iff_valid W P hP data d' _ hn).1 rfl

/-- `copy_from_str` through the translated code: the payload afterwards, put back between prefix and trailing
    bytes, is the model's buffer (whose payload is valid UTF-8 by `prefix_str_valid`). -/
theorem translated_copy_is_the_model (W P N : Nat) (buf : ByteArray) (s : String)
    (hw : W + PStr.recLen W buf ≤ buf.size) :
    ∃ v, GenP.copy_from_str W P N (PStr.payload W buf) s = some v ∧
      PStr.copyFromStr W buf s = buf.extract 0 W ++ v ++ buf.extract (W + PStr.recLen W buf) buf.size :=
  GenP.copy_from_str_buf W P N buf s hw

/-- The accessors through the translator: `Deref`, `DerefMut` and `as_str` of the prefixed strings hand out the payload
    bytes as they are — no check, no copy (`DerefMut` leaves them in place) — so in every state reachable through the safe
    API what they hand out is valid UTF-8 by `prefix_str_valid`; `PodStr::as_str_unchecked` (unsafe, outside the
    property) is the unvalidated text, and `PodStr::default()` is all zero, whose text is empty. -/
theorem translated_accessors_hand_out_the_payload (W P N : Nat) (hP : P < 256 ^ W) (b : ByteArray) (h : Safe W P b) :
    GenP.deref W P N (PStr.payload W b) = some (PStr.payload W b) ∧
    GenP.as_str W P N (PStr.payload W b) = some (PStr.payload W b) ∧
    GenP.deref_mut W P N (PStr.payload W b) = some (PStr.payload W b, PStr.payload W b) ∧
    (PStr.payload W b).IsValidUTF8 ∧
    (∀ v : ByteArray, v.size = N → GenS.as_str_unchecked W P N v = some (PodStr.text v)) ∧
    GenS.default_value W P N = some (zerosBA N) :=
  ⟨rfl, rfl, rfl, (prefix_str_valid W P hP b h).1, fun v hv => GenS.as_str_unchecked_eq W P N v hv, rfl⟩

end Stevia.C11
