/-
  C02 — the hash set behaves as a capacity-bounded set, collisions and iteration included.
  Every theorem is for an arbitrary hash function `hash : γ → Nat`, i.e. for every
  pattern of bucket collisions.
-/
import Stevia.Proofs.GenHSetIter
import Stevia.Proofs.GenHSetRun

namespace Stevia.C02
variable {γ : Type} [DecidableEq γ]

/-- Every history of insert / remove / contains / size queries, from `initialize(n)` on a
    zero-filled buffer of `n` records, answers exactly as the reference bounded set does,
    never faults, whatever the hash function. -/
theorem refines (hash : γ → Nat) (n : Nat) (hn : n < 4294967295) (ops : List (SetOp γ)) :
    ∃ s', (HSet.init n n : HSet γ).setRun hash ops = .ok (s', (BSet.run n [] ops).2) := by
  have hi := HSet.inv_init (β := γ) hash n n (Nat.le_refl n) hn
  have hm : (HSet.init n n : HSet γ).members.Perm [] := by
    simp [HSet.members, HSet.init]
  obtain ⟨s', h1, _, _⟩ := HSet.setRun_refines hi [] hm ops
  exact ⟨s', h1⟩

/-- The same from any well-formed state, against any listing of its members. -/
theorem refines_from (hash : γ → Nat) (s : HSet γ) (h : s.Inv hash) (m : List γ) (hm : s.members.Perm m)
    (ops : List (SetOp γ)) :
    ∃ s', s.setRun hash ops = .ok (s', (BSet.run s.cap m ops).2) ∧ s'.Inv hash ∧
      s'.members.Perm (BSet.run s.cap m ops).1 :=
  HSet.setRun_refines h m hm ops

/-- … in particular from every state reachable from `initialize` by any sequence of inserts and removes. -/
theorem refines_from_reachable (hash : γ → Nat) (s : HSet γ) (h : HSet.Reach hash s) (ops : List (SetOp γ)) :
    ∃ s', s.setRun hash ops = .ok (s', (BSet.run s.cap s.members ops).2) ∧
      s'.members.Perm (BSet.run s.cap s.members ops).1 := by
  obtain ⟨s', h1, _, h3⟩ := HSet.setRun_refines (HSet.reach_inv h) s.members (List.Perm.refl _) ops
  exact ⟨s', h1, h3⟩

/-- `insert` returns true exactly when the value was absent and the set not full;
    `remove` returns true exactly when it was present and removes only that value;
    `contains` is membership. -/
theorem insert_true_iff (hash : γ → Nat) (s : HSet γ) (h : s.Inv hash) (v : γ) :
    ∃ s', s.insert hash v = .ok (s', decide (v ∉ s.members ∧ s.size < s.cap)) := by
  rcases HSet.insert_spec h v with ⟨h1, h2⟩ | ⟨h1, h2, s', h3, _⟩
  · refine ⟨s, ?_⟩
    rw [h2]
    have : ¬ (v ∉ s.members ∧ s.size < s.cap) := by
      rintro ⟨a, b⟩; rcases h1 with h1 | h1
      · exact a h1
      · omega
    simp [this]
  · exact ⟨s', by rw [h3]; simp [h1, h2]⟩

theorem remove_true_iff (hash : γ → Nat) (s : HSet γ) (h : s.Inv hash) (v : γ) :
    ∃ s', s.remove hash v = .ok (s', decide (v ∈ s.members)) ∧
      (v ∈ s.members → s.members.Perm (v :: s'.members)) ∧ (v ∉ s.members → s' = s) := by
  rcases HSet.remove_spec h v with ⟨h1, h2⟩ | ⟨h1, s', h3, _, h5, _⟩
  · exact ⟨s, by rw [h2]; simp [h1], fun a => absurd a h1, fun _ => rfl⟩
  · exact ⟨s', by rw [h3]; simp [h1], fun _ => h5, fun a => absurd h1 a⟩

theorem contains_iff (hash : γ → Nat) (s : HSet γ) (h : s.Inv hash) (v : γ) :
    s.contains hash v = .ok (decide (v ∈ s.members)) := HSet.contains_spec h v

/-- Iterating a read-only view yields every member exactly once and nothing else. -/
theorem iter_members (hash : γ → Nat) (s : HSet γ) (h : s.Inv hash) :
    s.iter.Perm s.members ∧ s.iter.Nodup := by
  obtain ⟨h1, h2⟩ := HSet.iter_spec h
  exact ⟨h1 ▸ List.Perm.refl _, h2⟩

/-- The *literal* register-level transcription of hash_set.rs (`Stevia.Model.HashSetImp`: indices, bucket
    and next registers, `while current != SENTINEL` loops, `add_node`/`remove_node` on the header words),
    run on the layout of any well-formed state, yields exactly the layout of the functional model's next
    state and the same answer — so everything proved above about the functional model holds for the
    register-level algorithm, for every hash function. -/
theorem literal_model_is_the_model (hash : γ → Nat) (vd : γ) (s : HSet γ) (h : s.Inv hash) (v : γ) :
    (∃ s' r, s.insert hash v = .ok (s', r) ∧ HImp.insert hash (HImp.dflt vd) (s.image vd) v = (s'.image vd, r)) ∧
    (∃ s' r, s.remove hash v = .ok (s', r) ∧ HImp.remove hash (HImp.dflt vd) (s.image vd) v = (s'.image vd, r)) ∧
    s.contains hash v = .ok (HImp.contains hash (HImp.dflt vd) (s.image vd) v) ∧
    HImp.iter (HImp.dflt vd) (s.image vd) = s.iter := by
  obtain ⟨s1, r1, h1, -⟩ := h.insert v
  obtain ⟨s2, r2, h2, -⟩ := h.remove v
  exact ⟨⟨s1, r1, h1, HImp.insert_eq hash vd s s1 h v r1 h1⟩, ⟨s2, r2, h2, HImp.remove_eq hash vd s s2 h v r2 h2⟩,
    HImp.contains_eq hash vd s h v, HImp.iter_eq hash vd s h⟩

/-- Tie through the translator. `Stevia.GenH.*` is regenerated from `hash_set.rs` on every run
    (tools/rust2lean.py); a translated function answers `none` where the Rust panics (`add_node`'s "set is full")
    or where its chain scan does not leave by its own condition within `records + 1` iterations. Run on the layout of
    any well-formed set, the *translated Rust functions* `insert`, `remove` and `contains` answer `some …` — no
    panic, no endless loop — with the layout of the functional model's next state and the model's answer, for every
    hash function. -/
theorem translated_source_is_the_model (hash : γ → Nat) (vd : γ) (s : HSet γ) (h : s.Inv hash) (v : γ) :
    (∃ s' r, s.insert hash v = .ok (s', r) ∧
      GenH.insert hash (HImp.dflt vd) (s.image vd) v = some (s'.image vd, r)) ∧
    (∃ s' r, s.remove hash v = .ok (s', r) ∧
      GenH.remove hash (HImp.dflt vd) (s.image vd) v = some (s'.image vd, r)) ∧
    (∃ b, s.contains hash v = .ok b ∧ GenH.contains hash (HImp.dflt vd) (s.image vd) v = some b) ∧
    GenH.size hash (HImp.dflt vd) (s.image vd) = s.size ∧ GenH.capacity hash (HImp.dflt vd) (s.image vd) = s.cap := by
  obtain ⟨s1, r1, h1, -⟩ := h.insert v
  obtain ⟨s2, r2, h2, -⟩ := h.remove v
  exact ⟨⟨s1, r1, h1, GenH.insert_refines hash vd s s1 h v r1 h1⟩, ⟨s2, r2, h2, GenH.remove_refines hash vd s s2 h v r2 h2⟩,
    ⟨_, HSet.contains_spec h v, GenH.contains_refines hash vd s h v⟩, rfl, rfl⟩

/-- Tie through the translator, iteration: calling the *translated* `HashSetIterator::next` (regenerated from
    `hash_set.rs` on every run) from the iterator state the translated `iter()` constructs until it answers `None` — one more call than there are
    members — never fails and yields exactly the model's iteration order, i.e. (by `iter_members`) every member
    exactly once and nothing else, on the layout of every well-formed set and for every hash function. -/
theorem translated_iterator_yields_members (hash : γ → Nat) (vd : γ) (s : HSet γ) (h : s.Inv hash) :
    GenH.collect hash (HImp.dflt vd) (s.image vd) (s.size + 1)
      (GenH.iter hash (HImp.dflt vd) (s.image vd)).1 (GenH.iter hash (HImp.dflt vd) (s.image vd)).2 = some s.iter :=
  GenH.collect_eq hash vd s h

/-- The translated `initialize` on the layout of an all-zero buffer of `n` records is the layout of the model's
    initial state `init n cap`, from which `refines` starts. -/
theorem translated_initialize (hash : γ → Nat) (vd : γ) (n cap : Nat) :
    GenH.initialize_set hash (HImp.dflt vd) ((HSet.zero n : HSet γ).image vd) cap = (HSet.init n cap : HSet γ).image vd :=
  GenH.initialize_zero hash vd n cap

/-- Whole histories through the translator: `initialize(n)` on a zero-filled buffer of `n` records followed by *any*
    history of insert / remove / contains / size queries — the translated source answers `some …` at every step,
    with exactly the answers of the functional model (hence, by `refines`, of the capacity-bounded reference set), and
    ends in the register layout of the model's final state. For every hash function. -/
theorem translated_history (hash : γ → Nat) (vd : γ) (n : Nat) (hn : n < 4294967295) (ops : List (SetOp γ)) :
    ∃ s' outs, (HSet.init n n : HSet γ).setRun hash ops = .ok (s', outs) ∧
      GenH.runImg hash (HImp.dflt vd)
        (GenH.initialize_set hash (HImp.dflt vd) ((HSet.zero n : HSet γ).image vd) n) ops
        = some (s'.image vd, outs) := by
  rw [GenH.initialize_zero hash vd n n]
  obtain ⟨s', outs, h1, _, h3⟩ :=
    GenH.run_refines hash vd (HSet.init n n) (HSet.inv_init hash n n (Nat.le_refl n) hn) ops
  exact ⟨s', outs, h1, h3⟩

end Stevia.C02
