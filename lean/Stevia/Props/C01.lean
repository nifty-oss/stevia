/-
  C01 — AVL trees behave as a capacity-bounded ordered map over every history.
  Property theorems only (helper lemmas live in Stevia/Proofs).
-/
import Stevia.Proofs.GenTreeStep

namespace Stevia.C01
variable {α β : Type} [LinOrd α]

/-- From every well-formed (in particular every reachable) state, every finite
    history of insert / remove / get / get_mut+write / contains / lowest / len /
    is_empty / is_full returns exactly what the reference bounded ordered map
    returns, never faults, and ends in a state whose contents are the reference's. -/
theorem refines_from (c : TreeCfg) (s : Tree α β) (h : Tree.Reach c s) (ops : List (MapOp α β)) :
    ∃ s', s.mapRun c ops = .ok (s', (s.abs.run ops).2) ∧ s'.abs = (s.abs.run ops).1 := by
  obtain ⟨s', h1, _, h3⟩ := Tree.mapRun_refines (Tree.reach_inv h) ops
  exact ⟨s', h1, h3⟩

/-- Histories starting from `initialize(n)` on a zero-filled buffer of `n` records:
    the outputs are those of the empty reference map of capacity `n`. -/
theorem refines (c : TreeCfg) (n : Nat) (hn : n ≤ c.W) (hw : c.wrap = true ∨ n < c.W)
    (ops : List (MapOp α β)) :
    ∃ s', (Tree.init n n : Tree α β).mapRun c ops
        = .ok (s', (BMap.run { cap := n, m := [] } ops).2) := by
  obtain ⟨s', h1, _, _⟩ :=
    Tree.mapRun_refines (Tree.inv_init (α := α) (β := β) c n n (Nat.le_refl n) hn hw) ops
  exact ⟨s', h1⟩

/-- 8-bit index variant: every capacity up to 255. -/
theorem refines_u8 (n : Nat) (hn : n ≤ 255) (ops : List (MapOp α β)) :
    ∃ s', (Tree.init n n : Tree α β).mapRun cfgU8 ops
        = .ok (s', (BMap.run { cap := n, m := [] } ops).2) :=
  refines cfgU8 n hn (Or.inl rfl) ops

/-- 32-bit index variant: every capacity below 2^32 - 1. -/
theorem refines_u32 (n : Nat) (hn : n < 4294967295) (ops : List (MapOp α β)) :
    ∃ s', (Tree.init n n : Tree α β).mapRun cfgU32 ops
        = .ok (s', (BMap.run { cap := n, m := [] } ops).2) :=
  refines cfgU32 n (Nat.le_of_lt hn) (Or.inr hn) ops

/-- The reference really is the map of the property statement: insert succeeds exactly
    when the key is absent and the map is not full, and never overwrites. -/
theorem spec_insert (b : BMap α β) (k : α) (v : β) :
    (b.step (.insert k v)).2 = .bool (decide ((getKV k b.m) = none ∧ b.m.length < b.cap)) ∧
    (((getKV k b.m).isSome ∨ b.m.length ≥ b.cap) → (b.step (.insert k v)).1 = b) := by
  have hc : ((getKV k b.m).isSome ∨ b.m.length ≥ b.cap) ↔ ¬ (getKV k b.m = none ∧ b.m.length < b.cap) := by
    cases getKV k b.m <;> simp [Nat.not_lt]
  by_cases h : (getKV k b.m).isSome ∨ b.m.length ≥ b.cap
  · simp only [BMap.step, if_pos h]
    exact ⟨by rw [decide_eq_false (hc.mp h)], fun _ => trivial⟩
  · simp only [BMap.step, if_neg h]
    exact ⟨by rw [decide_eq_true (Decidable.not_not.mp (mt hc.mpr h))], fun h' => absurd h' h⟩

/-- `lowest` is the minimum key: in every reachable state it is the key of the first entry of the
    strictly ascending in-order list, so it is below every other key of the tree (and `none` iff empty). -/
theorem lowest_is_min (c : TreeCfg) (s : Tree α β) (h : Tree.Reach c s) :
    (s.lowest = none ↔ s.root.toList = []) ∧
    ∀ k0, s.lowest = some k0 → ∀ e ∈ s.root.toList, e.2.1 = k0 ∨ k0 < e.2.1 := by
  have hs := (Tree.reach_inv h).sorted
  have hm : s.lowest = s.root.toList.head?.map (·.2.1) := T.minKey_eq s.root
  constructor
  · rw [hm]; cases s.root.toList <;> simp
  · intro k0 hk e he
    rw [hm] at hk
    cases hl : s.root.toList with
    | nil => rw [hl] at he; cases he
    | cons x rest =>
      rw [hl] at hk he hs
      simp only [List.head?_cons, Option.map_some, Option.some.injEq] at hk
      rcases List.mem_cons.1 he with rfl | hr
      · exact Or.inl hk
      · exact Or.inr (hk ▸ hs.1 e hr)

/-- Non-vacuity: a concrete reachable state (three entries, one recycled slot). -/
example : ∃ s : Tree Nat Nat, Tree.Reach cfgU8 s ∧ s.size = 2 ∧ s.free = [2] :=
  ⟨_, Tree.Reach.step (TreeOp.remove 5)
      (Tree.Reach.step (TreeOp.insert 9 90)
        (Tree.Reach.step (TreeOp.insert 5 50)
          (Tree.Reach.step (TreeOp.insert 7 70)
            (Tree.Reach.init 4 4 (by decide) (by decide) (Or.inl rfl)) trivial rfl) trivial rfl) trivial rfl)
      trivial rfl, by decide, by decide⟩

/-! ### Tie through the translator

`Stevia.Gen32.*` / `Stevia.Gen8.*` are regenerated from `avl_tree.rs` / `u8_avl_tree.rs` on every run
(tools/rust2lean.py). A translated function answers `none` where the Rust would panic or where one of its loops
does not leave by its own condition within `records + 1` iterations. The following theorems say that the *translated
Rust functions*, run on the register layout of any reachable state, answer `some …` — no panic, no endless loop — and
do what the functional model (and hence, by `refines_from`, the reference map) does. -/

/-- `avl_tree.rs`: `from_bytes_mut` followed by `insert` on the layout of a reachable state returns normally, ends in the
    layout of a reachable state, and state and returned slot are the model's. -/
theorem translated_insert_u32 (kd : α) (vd : β) (s : Tree α β) (h : Tree.Reach cfgU32 s) (k : α) (v : β) :
    ∃ s' r, Tree.Reach cfgU32 s' ∧ (s.openMut cfgU32).insert cfgU32 k v = .ok (s', r) ∧
      Gen32.insert (Imp.dflt kd vd) (Gen32.from_bytes_mut (Imp.dflt kd vd) (s.image cfgU32 kd vd)) k v
        = some (s'.image cfgU32 kd vd, r) :=
  GenTree.transition_insert Gen32.bridges kd vd s h k v

/-- `avl_tree.rs`: the same for `remove`. -/
theorem translated_remove_u32 (kd : α) (vd : β) (s : Tree α β) (h : Tree.Reach cfgU32 s) (k : α) :
    ∃ s' r, Tree.Reach cfgU32 s' ∧ (s.openMut cfgU32).remove k = .ok (s', r) ∧
      Gen32.remove (Imp.dflt kd vd) (Gen32.from_bytes_mut (Imp.dflt kd vd) (s.image cfgU32 kd vd)) k
        = some (s'.image cfgU32 kd vd, r) :=
  GenTree.transition_remove Gen32.bridges kd vd s h k

/-- `avl_tree.rs`: the translated queries (`find`, `contains`, `lowest`, the sizes) and `get_mut` + write return normally and
    answer as the model. -/
theorem translated_queries_u32 (kd : α) (vd : β) (s : Tree α β) (h : Tree.Reach cfgU32 s) (k : α) (v : β) :
    Gen32.find (Imp.dflt kd vd) (s.image cfgU32 kd vd) k = some ((s.root.find k).map (·.1)) ∧
    Gen32.contains (Imp.dflt kd vd) (s.image cfgU32 kd vd) k = some (s.root.find k).isSome ∧
    Gen32.lowest (Imp.dflt kd vd) (s.image cfgU32 kd vd) = some s.lowest ∧
    Gen32.len (Imp.dflt kd vd) (s.image cfgU32 kd vd) = s.size ∧
    Gen32.is_full (Imp.dflt kd vd) (s.image cfgU32 kd vd) = s.isFull ∧
    (Gen32.get_mut (Imp.dflt kd vd) (s.image cfgU32 kd vd) k).map (fun r => match r.2 with
      | none => (s.image cfgU32 kd vd, false)
      | some i => (Imp.wr (s.image cfgU32 kd vd) i fun r => { r with val := v }, true))
      = some (((s.update k v).1).image cfgU32 kd vd, (s.update k v).2) :=
  have hi := Tree.reach_inv h
  ⟨GenTree.find_refines Gen32.bridges kd vd s hi k, GenTree.contains_refines Gen32.bridges kd vd s hi k,
   GenTree.lowest_refines Gen32.bridges kd vd s hi, rfl, rfl, GenTree.get_mut_refines Gen32.bridges kd vd s hi k v⟩

/-- `u8_avl_tree.rs`: `from_bytes_mut` followed by `insert` on the layout of a reachable state returns normally, ends in the
    layout of a reachable state, and state and returned slot are the model's. -/
theorem translated_insert_u8 (kd : α) (vd : β) (s : Tree α β) (h : Tree.Reach cfgU8 s) (k : α) (v : β) :
    ∃ s' r, Tree.Reach cfgU8 s' ∧ (s.openMut cfgU8).insert cfgU8 k v = .ok (s', r) ∧
      Gen8.insert (Imp.dflt kd vd) (Gen8.from_bytes_mut (Imp.dflt kd vd) (s.image cfgU8 kd vd)) k v
        = some (s'.image cfgU8 kd vd, r) :=
  GenTree.transition_insert Gen8.bridges kd vd s h k v

/-- `u8_avl_tree.rs`: the same for `remove`. -/
theorem translated_remove_u8 (kd : α) (vd : β) (s : Tree α β) (h : Tree.Reach cfgU8 s) (k : α) :
    ∃ s' r, Tree.Reach cfgU8 s' ∧ (s.openMut cfgU8).remove k = .ok (s', r) ∧
      Gen8.remove (Imp.dflt kd vd) (Gen8.from_bytes_mut (Imp.dflt kd vd) (s.image cfgU8 kd vd)) k
        = some (s'.image cfgU8 kd vd, r) :=
  GenTree.transition_remove Gen8.bridges kd vd s h k

/-- `u8_avl_tree.rs`: the translated queries (`find`, `contains`, `lowest`, the sizes) and `get_mut` + write return normally and
    answer as the model. -/
theorem translated_queries_u8 (kd : α) (vd : β) (s : Tree α β) (h : Tree.Reach cfgU8 s) (k : α) (v : β) :
    Gen8.find (Imp.dflt kd vd) (s.image cfgU8 kd vd) k = some ((s.root.find k).map (·.1)) ∧
    Gen8.contains (Imp.dflt kd vd) (s.image cfgU8 kd vd) k = some (s.root.find k).isSome ∧
    Gen8.lowest (Imp.dflt kd vd) (s.image cfgU8 kd vd) = some s.lowest ∧
    Gen8.len (Imp.dflt kd vd) (s.image cfgU8 kd vd) = s.size ∧
    Gen8.is_full (Imp.dflt kd vd) (s.image cfgU8 kd vd) = s.isFull ∧
    (Gen8.get_mut (Imp.dflt kd vd) (s.image cfgU8 kd vd) k).map (fun r => match r.2 with
      | none => (s.image cfgU8 kd vd, false)
      | some i => (Imp.wr (s.image cfgU8 kd vd) i fun r => { r with val := v }, true))
      = some (((s.update k v).1).image cfgU8 kd vd, (s.update k v).2) :=
  have hi := Tree.reach_inv h
  ⟨GenTree.find_refines Gen8.bridges kd vd s hi k, GenTree.contains_refines Gen8.bridges kd vd s hi k,
   GenTree.lowest_refines Gen8.bridges kd vd s hi, rfl, rfl, GenTree.get_mut_refines Gen8.bridges kd vd s hi k v⟩

/-- `avl_tree.rs`, whole histories: `initialize(cap)` on a zero-filled buffer of `n` records followed by *any* history of
    insertions, removals, `get_mut` + writes, re-openings and buffer extensions (each through a fresh handle, as the
    crate is used) — the translated source answers `some …` at every step and ends in exactly the register layout of
    the functional model's state after the same history. With `refines_from` this is: for every history the code as
    written answers like the capacity-bounded reference map. -/
theorem translated_history_u32 (kd : α) (vd : β) (n cap : Nat) (h1 : cap ≤ n) (h2 : n < 4294967295) (s' : Tree α β)
    (ops : List (TreeOp α β)) (hs : Tree.Steps cfgU32 (Tree.init n cap) ops s') :
    Gen32.runImg (Imp.dflt kd vd)
      (Gen32.initialize_tree (Imp.dflt kd vd) ((Tree.zero n : Tree α β).image cfgU32 kd vd) cap) ops
      = some (s'.image cfgU32 kd vd) :=
  Gen32.run_from_zero kd vd n cap h1 h2 s' ops hs

/-- `u8_avl_tree.rs`, whole histories: `initialize(cap)` on a zero-filled buffer of `n` records followed by *any* history of
    insertions, removals, `get_mut` + writes, re-openings and buffer extensions (each through a fresh handle, as the
    crate is used) — the translated source answers `some …` at every step and ends in exactly the register layout of
    the functional model's state after the same history. With `refines_from` this is: for every history the code as
    written answers like the capacity-bounded reference map. -/
theorem translated_history_u8 (kd : α) (vd : β) (n cap : Nat) (h1 : cap ≤ n) (h2 : n ≤ 255) (s' : Tree α β)
    (ops : List (TreeOp α β)) (hs : Tree.Steps cfgU8 (Tree.init n cap) ops s') :
    Gen8.runImg (Imp.dflt kd vd)
      (Gen8.initialize_tree (Imp.dflt kd vd) ((Tree.zero n : Tree α β).image cfgU8 kd vd) cap) ops
      = some (s'.image cfgU8 kd vd) :=
  Gen8.run_from_zero kd vd n cap h1 h2 s' ops hs

/-- Non-vacuity of the history theorems: a concrete history (insert, insert, remove, re-open, insert). -/
example : ∃ s', Tree.Steps cfgU8 (Tree.init 2 2 : Tree Nat Nat)
    [TreeOp.insert 7 70, TreeOp.insert 5 50, TreeOp.remove 7, TreeOp.reopen, TreeOp.insert 9 90] s' :=
  ⟨_, .cons _ trivial rfl (.cons _ trivial rfl (.cons _ trivial rfl (.cons _ trivial rfl
    (.cons _ trivial rfl .nil))))⟩

end Stevia.C01
