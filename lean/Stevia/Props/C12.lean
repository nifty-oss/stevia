/-
  C12 — operations are total at the edges; an all-zero buffer reads as empty.
  The model returns `Except.error` exactly where the Rust code has checked
  arithmetic, `% capacity`, an explicit `panic!` or a bounds-checked index; the
  theorems say none of these is reachable in an accepted configuration.
-/
import Stevia.Proofs.HashSetState
import Stevia.Props.C06
import Stevia.Proofs.GenASetRefine
import Stevia.Proofs.GenTreeRefine
import Stevia.Proofs.GenTreeOps
import Stevia.Proofs.GenTreeOpen

namespace Stevia.C12
variable {α β : Type} [LinOrd α]

/-- No tree operation faults in any reachable state of any accepted configuration:
    every capacity `0 ≤ cap ≤ records ≤ W` (8-bit: up to 255 records; 32-bit: fewer than
    2^32-1), full and empty trees, any keys. -/
theorem tree_no_fault (c : TreeCfg) (s : Tree α β) (h : Tree.Reach c s) (op : TreeOp α β) (hok : op.ok c s) :
    ∃ s', s.step c op = .ok s' ∧ Tree.Reach c s' := by
  obtain ⟨s', h1, _⟩ := Tree.step_ok (Tree.reach_inv h) op hok
  exact ⟨s', h1, Tree.Reach.step op h hok h1⟩

/-- … in particular for the edge capacities 0, 1, 2 and the 8-bit maximum 255. -/
theorem tree_edge_configs_accepted :
    (∀ n, n ≤ 255 → Tree.Reach cfgU8 (Tree.init n n : Tree α β)) ∧
    (∀ n, n < 4294967295 → Tree.Reach cfgU32 (Tree.init n n : Tree α β)) :=
  ⟨fun n hn => Tree.Reach.init n n (Nat.le_refl n) hn (Or.inl rfl),
   fun n hn => Tree.Reach.init n n (Nat.le_refl n) (Nat.le_of_lt hn) (Or.inr hn)⟩

/-- The height casts (`as i8`, `as i32`) cannot overflow: an 8-bit tree has height ≤ 11. -/
theorem tree_height_cast_u8 (s : Tree α β) (h : Tree.Reach cfgU8 s) : s.root.height ≤ 11 := by
  have hi := Tree.reach_inv h
  have h1 : s.size ≤ 255 := Nat.le_trans hi.size_le_cap (Nat.le_trans hi.cap_le hi.slots_le)
  exact C06.height_le_of_size_le_255 cfgU8 s h h1

/-- A buffer that is still all zero reads as an empty tree through every read-only query. -/
theorem tree_zero_reads_empty (n : Nat) (k : α) :
    (Tree.zero n : Tree α β).get k = none ∧ (Tree.zero n : Tree α β).contains k = false ∧
    (Tree.zero n : Tree α β).lowest = none ∧ (Tree.zero n : Tree α β).len = 0 ∧
    (Tree.zero n : Tree α β).isEmpty = true ∧ (Tree.zero n : Tree α β).capacity = 0 :=
  ⟨rfl, rfl, rfl, rfl, rfl, rfl⟩

/-- Hash set: no operation faults on a well-formed state (capacity 0 included), for any hash. -/
theorem hset_no_fault {γ : Type} [DecidableEq γ] (hash : γ → Nat) (s : HSet γ) (h : s.Inv hash) (op : SetOp γ) :
    ∃ s' o, s.setStep hash op = .ok (s', o) := by
  obtain ⟨s', h1, _⟩ := HSet.setStep_refines h s.members (List.Perm.refl _) op
  exact ⟨s', _, h1⟩

theorem hset_no_fault_reachable {γ : Type} [DecidableEq γ] (hash : γ → Nat) (s : HSet γ) (h : HSet.Reach hash s)
    (op : SetOp γ) : ∃ s' o, s.setStep hash op = .ok (s', o) := hset_no_fault hash s (HSet.reach_inv h) op

theorem hset_edge_configs_accepted {γ : Type} [DecidableEq γ] (hash : γ → Nat) (n : Nat) (hn : n < 4294967295) :
    (HSet.init n n : HSet γ).Inv hash := HSet.inv_init hash n n (Nat.le_refl n) hn

/-- An all-zero hash-set buffer reads as empty: `contains` is false without fault, sizes are 0,
    iteration yields nothing. -/
theorem hset_zero_reads_empty {γ : Type} [DecidableEq γ] (hash : γ → Nat) (n : Nat) (v : γ) :
    (HSet.zero n : HSet γ).contains hash v = .ok false ∧ (HSet.zero n : HSet γ).size = 0 ∧
    (HSet.zero n : HSet γ).isEmpty = true ∧ (HSet.zero n : HSet γ).iter = [] := by
  refine ⟨rfl, rfl, rfl, ?_⟩
  simp [HSet.iter, HSet.zero]

/-- Array set: no operation faults on a well-formed set, for every slot count (0 included) and
    every prefix width (`P`), and a zero-filled buffer is the (well-formed) empty set. -/
theorem aset_no_fault {κ : Type} [LinOrd κ] {key : α → κ} {P : Nat} {s : ASet α} (h : s.Inv key P)
    (op : ASOp α κ) : ∃ s' o, s.opStep key P op = .ok (s', o) := by
  obtain ⟨s', h1, _⟩ := ASet.opStep_refines h op
  exact ⟨s', _, h1⟩


theorem aset_no_fault_reachable {κ : Type} [LinOrd κ] {key : α → κ} {P : Nat} {d : α} {s : ASet α}
    (h : ASet.Reach key P d s) (op : ASOp α κ) : ∃ s' o, s.opStep key P op = .ok (s', o) :=
  aset_no_fault (ASet.reach_inv h) op

theorem aset_zero_is_empty {κ : Type} [LinOrd κ] (key : α → κ) (P : Nat) (d : α) (n : Nat) :
    ({ len := 0, vals := List.replicate n d } : ASet α).Inv key P ∧
    ({ len := 0, vals := List.replicate n d } : ASet α).view = [] :=
  ⟨ASet.inv_zero key P d n, by simp [ASet.view]⟩

/-- Tie through the translator: in the *translated* `array_set.rs` (`Stevia.GenA.*`, regenerated on every run; a
    failing bounds check, an out-of-range raw copy or a panic is `none`) every operation returns normally in every
    reachable state, for every slot count and every prefix width. -/
theorem translated_array_set_total {κ : Type} [LinOrd κ] {key : α → κ} {P : Nat} {d : α} {s : ASet α}
    (h : ASet.Reach key P d s) (x : α) :
    (GenA.insert key P s x).isSome ∧ (GenA.take key P s x).isSome ∧ (GenA.get key P s x).isSome ∧
    (GenA.contains key P s x).isSome := by
  have hi := ASet.reach_inv h
  obtain ⟨_, _, h1, _⟩ := GenA.insert_refines hi x
  obtain ⟨_, _, h2, _⟩ := GenA.take_refines hi x
  rw [h1, h2, (GenA.get_refines hi x).1, (GenA.get_refines hi x).2]
  exact ⟨rfl, rfl, rfl, rfl⟩

/-! ### Tie through the translator: the code as written neither panics nor loops on

A translated function (`Stevia.Gen32.*`, `Stevia.Gen8.*`, regenerated from the tree files on every run) answers `none`
where the Rust panics (`add`'s "tree is full") and where a `while`/`loop` does not leave by its own condition within
`records + 1` iterations. -/

/-- `avl_tree.rs`: in every reachable state every translated operation returns normally. -/
theorem translated_tree_total_u32 (kd : α) (vd : β) (s : Tree α β) (h : Tree.Reach cfgU32 s) (k : α) (v : β) :
    (Gen32.insert (Imp.dflt kd vd) (Gen32.from_bytes_mut (Imp.dflt kd vd) (s.image cfgU32 kd vd)) k v).isSome ∧
    (Gen32.remove (Imp.dflt kd vd) (Gen32.from_bytes_mut (Imp.dflt kd vd) (s.image cfgU32 kd vd)) k).isSome ∧
    (Gen32.find (Imp.dflt kd vd) (s.image cfgU32 kd vd) k).isSome ∧
    (Gen32.contains (Imp.dflt kd vd) (s.image cfgU32 kd vd) k).isSome ∧
    (Gen32.lowest (Imp.dflt kd vd) (s.image cfgU32 kd vd)).isSome ∧
    (Gen32.get_mut (Imp.dflt kd vd) (s.image cfgU32 kd vd) k).isSome := by
  have hi := Tree.reach_inv h
  obtain ⟨_, _, _, _, e1⟩ := GenTree.transition_insert Gen32.bridges kd vd s h k v
  obtain ⟨_, _, _, _, e2⟩ := GenTree.transition_remove Gen32.bridges kd vd s h k
  rw [e1, e2, GenTree.find_refines Gen32.bridges kd vd s hi k, GenTree.contains_refines Gen32.bridges kd vd s hi k,
    GenTree.lowest_refines Gen32.bridges kd vd s hi, GenTree.get_mut_image Gen32.bridges kd vd s hi k]
  exact ⟨rfl, rfl, rfl, rfl, rfl, rfl⟩

/-- `u8_avl_tree.rs`: in every reachable state every translated operation returns normally. -/
theorem translated_tree_total_u8 (kd : α) (vd : β) (s : Tree α β) (h : Tree.Reach cfgU8 s) (k : α) (v : β) :
    (Gen8.insert (Imp.dflt kd vd) (Gen8.from_bytes_mut (Imp.dflt kd vd) (s.image cfgU8 kd vd)) k v).isSome ∧
    (Gen8.remove (Imp.dflt kd vd) (Gen8.from_bytes_mut (Imp.dflt kd vd) (s.image cfgU8 kd vd)) k).isSome ∧
    (Gen8.find (Imp.dflt kd vd) (s.image cfgU8 kd vd) k).isSome ∧
    (Gen8.contains (Imp.dflt kd vd) (s.image cfgU8 kd vd) k).isSome ∧
    (Gen8.lowest (Imp.dflt kd vd) (s.image cfgU8 kd vd)).isSome ∧
    (Gen8.get_mut (Imp.dflt kd vd) (s.image cfgU8 kd vd) k).isSome := by
  have hi := Tree.reach_inv h
  obtain ⟨_, _, _, _, e1⟩ := GenTree.transition_insert Gen8.bridges kd vd s h k v
  obtain ⟨_, _, _, _, e2⟩ := GenTree.transition_remove Gen8.bridges kd vd s h k
  rw [e1, e2, GenTree.find_refines Gen8.bridges kd vd s hi k, GenTree.contains_refines Gen8.bridges kd vd s hi k,
    GenTree.lowest_refines Gen8.bridges kd vd s hi, GenTree.get_mut_image Gen8.bridges kd vd s hi k]
  exact ⟨rfl, rfl, rfl, rfl, rfl, rfl⟩

end Stevia.C12
