/-
  C07 — exactly `capacity` entries fit, whatever the history.
-/
import Stevia.Proofs.TreeState
import Stevia.Proofs.HashSetState
import Stevia.Proofs.GenTreeAlloc

namespace Stevia.C07
variable {α β : Type} [LinOrd α]

/-- From every reachable tree state (opened, i.e. capacity = records) with capacity `c`
    and `n` entries, exactly `c - n` further distinct new entries can be inserted — each
    succeeds without fault — and then every further insertion is refused. -/
theorem tree_fill (c : TreeCfg) (s : Tree α β) (h : Tree.Reach c s) (kvs : List (α × β))
    (hnd : (kvs.map (·.1)).Pairwise (fun a b => a < b ∨ b < a))
    (hfresh : ∀ e ∈ kvs, s.root.find e.1 = none)
    (hlen : kvs.length + s.size = s.cap) :
    ∃ s', s.insertAll c kvs = some s' ∧ s'.size = s'.cap ∧ s'.cap = s.cap ∧
      ∀ k v, s'.insert c k v = .ok (s', none) := by
  obtain ⟨s', h1, _, h3, h4, h5⟩ := Tree.fill_spec (Tree.reach_inv h) kvs hnd hfresh hlen
  exact ⟨s', h1, h3, h4, h5⟩

/-- `is_full` is true exactly when `n = c`. -/
theorem tree_isFull_iff (c : TreeCfg) (s : Tree α β) (h : Tree.Reach c s) :
    s.isFull = true ↔ s.size = s.cap := by
  have := (Tree.reach_inv h).size_le_cap
  simp only [Tree.isFull, decide_eq_true_eq]
  omega

/-- Storage is never handed out twice: the slot an insertion returns was not in use. -/
theorem tree_slot_fresh (c : TreeCfg) (s s' : Tree α β) (h : Tree.Reach c s) (k : α) (v : β) (i : Nat)
    (hi : s.insert c k v = .ok (s', some i)) : i ∉ s.root.slots ∧ 1 ≤ i ∧ i ≤ s.slots := by
  obtain ⟨_, _, _, h5, h6, h7, _⟩ := Tree.insert_some (Tree.reach_inv h) hi
  exact ⟨h5, h6, h7⟩

/-- Storage released by a removal is reusable: it is the very next slot handed out. -/
theorem tree_released_reused (c : TreeCfg) (s s' : Tree α β) (h : Tree.Reach c s) (k : α) (i : Nat) (v : β)
    (hf : s.root.find k = some (i, v)) (hr : s.remove k = .ok (s', some v)) (k' : α) (v' : β)
    (hk : s'.root.find k' = none) : ∃ s'', s'.insert c k' v' = .ok (s'', some i) :=
  Tree.free_reused (Tree.reach_inv h) hf hr k' v' hk

/-- Hash set: exactly `cap - size` further new values fit, for every hash function. -/
theorem hset_fill {γ : Type} [DecidableEq γ] (hash : γ → Nat) (s : HSet γ) (h : s.Inv hash) (vs : List γ)
    (hnd : vs.Nodup) (hfresh : ∀ v ∈ vs, v ∉ s.members) (hlen : vs.length + s.size = s.cap) :
    ∃ s', s.insertAll hash vs = some s' ∧ s'.size = s'.cap ∧ s'.cap = s.cap ∧
      ∀ v, s'.insert hash v = .ok (s', false) := by
  obtain ⟨s', h1, _, h3, h4, h5⟩ := HSet.fill_spec h vs hnd hfresh hlen
  exact ⟨s', h1, h3, h4, h5⟩

/-- `avl_tree.rs`: the translated `add` (free list first, else the sequence cursor; `none` = the "tree is full" panic) and
    `remove_node` are the literal model's allocator. -/
theorem translated_allocator_u32 (d : Rec α β) (m : TreeImage α β) :
    (∀ k v, Gen32.add d m k v = Imp.add cfgU32 d m k v) ∧
    (∀ i, i ≠ 0 → Gen32.remove_node d m i = ((Imp.removeNode d m i).1, some (Imp.removeNode d m i).2)) :=
  ⟨Gen32.add_eq d m, fun i hi => by rw [Gen32.remove_node_eq, if_neg hi]⟩

/-- `u8_avl_tree.rs`: the translated `add` (free list first, else the sequence cursor; `none` = the "tree is full" panic) and
    `remove_node` are the literal model's allocator. -/
theorem translated_allocator_u8 (d : Rec α β) (m : TreeImage α β) :
    (∀ k v, Gen8.add d m k v = Imp.add cfgU8 d m k v) ∧
    (∀ i, i ≠ 0 → Gen8.remove_node d m i = ((Imp.removeNode d m i).1, some (Imp.removeNode d m i).2)) :=
  ⟨Gen8.add_eq d m, fun i hi => by rw [Gen8.remove_node_eq, if_neg hi]⟩

end Stevia.C07
