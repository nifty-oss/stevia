/-
  C10 — the bytes are the documented format in every reachable state.
  (`Tree.image`/`HSet.image` are the register-level layout of the documented
  format; `TreeImage.decode`/`HImage.decode` are the independent decoder.)
-/
import Stevia.Generated.Facts
import Stevia.Proofs.ExecInv
import Stevia.Proofs.BytesRT
import Stevia.Proofs.GenTreeRefine
import Stevia.Proofs.GenTreeOps
import Stevia.Proofs.GenTreeOpen
import Stevia.Proofs.GenViewsFmt

namespace Stevia.C10
variable {α β : Type} [LinOrd α]

/-- In every reachable tree state the independent decoder of the documented format,
    applied to the layout, recovers exactly the state — hence exactly the contents the API
    reports (C01 relates those to `s.root.toList`). -/
theorem tree_decode_recovers [DecidableEq α] [DecidableEq β] (c : TreeCfg) (kd : α) (vd : β)
    (s : Tree α β) (h : Tree.Reach c s) : (s.image c kd vd).decode c kd vd = some s :=
  TreeImage.decode_image c kd vd s (Tree.reach_inv h).layoutOk

/-- The decoder accepts nothing but layouts: whatever it returns, the image is exactly its layout. -/
theorem tree_decoder_exact [DecidableEq α] [DecidableEq β] (c : TreeCfg) (kd : α) (vd : β)
    (img : TreeImage α β) (s : Tree α β) (h : img.decode c kd vd = some s) : s.image c kd vd = img :=
  TreeImage.image_of_decode c kd vd img s h

/-- Every slot is exactly one of live (a tree node holding its key, value, child indices and
    height), recycled (on the free list: all zero except the threading register) or never
    used (all zero). -/
theorem tree_slot_trichotomy (c : TreeCfg) (kd : α) (vd : β) (s : Tree α β) (h : Tree.Reach c s) (i : Nat) :
    (i ∈ s.root.slots ∧ i ∉ s.free ∧
        ∃ l k v hh r, s.root.sub i = some (.node i l k v hh r) ∧
          s.recAt c kd vd i = ⟨l.slot, r.slot, hh, 0, k, v⟩) ∨
    (i ∉ s.root.slots ∧ i ∈ s.free ∧
        ∃ nxt, freeNext (s.seqReg c) s.free i = some nxt ∧ s.recAt c kd vd i = ⟨0, 0, nxt, 0, kd, vd⟩) ∨
    (i ∉ s.root.slots ∧ i ∉ s.free ∧ s.recAt c kd vd i = ⟨0, 0, 0, 0, kd, vd⟩) :=
  Tree.recAt_trichotomy c kd vd s (Tree.reach_inv h).layoutOk i

/-- `data_len(c)` is exactly header plus `c` records; the headers are 24 resp. 8 bytes. -/
theorem tree_data_len (f : TreeFmt) (cap : Nat) : f.dataLen cap = f.hdrSize + cap * f.recSize := rfl

theorem tree_header_sizes (k v : Scalar) : (TreeFmt.u32 k v).hdrSize = 24 ∧ (TreeFmt.u8 k v).hdrSize = 8 :=
  ⟨rfl, rfl⟩

/-- The index returned by a tree insertion is the record holding that entry. -/
theorem tree_insert_index (c : TreeCfg) (s s' : Tree α β) (h : Tree.Reach c s) (k : α) (v : β) (i : Nat)
    (hi : s.insert c k v = .ok (s', some i)) : s'.root.find k = some (i, v) := by
  have inv := Tree.reach_inv h
  obtain ⟨hf, inv2, hl, _⟩ := Tree.insert_some inv hi
  rw [T.find_eq_findL inv2.bst, hl]
  exact findL_insL_self (i, k, v) (by rw [← T.find_eq_findL inv.bst]; exact hf)

/-- A live entry never moves to another record: insertion keeps slot and value of every other key. -/
theorem tree_insert_stable (c : TreeCfg) (s s' : Tree α β) (h : Tree.Reach c s) (k : α) (v : β) (i : Nat)
    (hi : s.insert c k v = .ok (s', some i)) (k' : α) (hk : k' < k ∨ k < k') :
    s'.root.find k' = s.root.find k' := by
  have inv := Tree.reach_inv h
  obtain ⟨_, inv2, hl, _⟩ := Tree.insert_some inv hi
  rw [T.find_eq_findL inv2.bst, T.find_eq_findL inv.bst, hl]
  exact findL_insL_other (i, k, v) hk

/-- … and so does removal, for every key other than the removed one. -/
theorem tree_remove_stable (c : TreeCfg) (s s' : Tree α β) (h : Tree.Reach c s) (k : α) (v : β)
    (hr : s.remove k = .ok (s', some v)) (k' : α) (hk : k' < k ∨ k < k') :
    s'.root.find k' = s.root.find k' := by
  have inv := Tree.reach_inv (c := c) h
  obtain ⟨_, _, inv2, hl, _⟩ := Tree.remove_some inv hr
  rw [T.find_eq_findL inv2.bst, T.find_eq_findL inv.bst, hl]
  exact findL_delL_other hk

/-- Hash set: every value stored in bucket `b`'s chain hashes to `b` modulo the capacity,
    and the decoder recovers the state from the layout. -/
theorem hset_placed {γ : Type} [DecidableEq γ] (hash : γ → Nat) (s : HSet γ) (h : s.Inv hash)
    (b : Nat) (ch : List (Nat × γ)) (hb : s.chains[b]? = some ch) :
    ∀ e ∈ ch, (hash e.2 % 4294967296) % s.cap = b := fun e he => (h.placed b ch hb e he).2

theorem hset_decode_recovers {γ : Type} [DecidableEq γ] (hash : γ → Nat) (vd : γ) (s : HSet γ)
    (h : s.Inv hash) : (s.image vd).decode vd = some s :=
  HImage.decode_image vd s h.layoutOk

/-- Array set: the count fits the buffer and the values up to the count are strictly ascending. -/
theorem aset_format {κ : Type} [LinOrd κ] {key : α → κ} {P : Nat} {s : ASet α} (h : s.Inv key P) :
    s.len ≤ s.slots ∧ AscK (s.view.map key) := ⟨h.len_le, h.sorted⟩

/-- Byte level: the parser of the documented byte format (little-endian words, `repr(C)` offsets, zero
    padding) accepts the bytes of every reachable state and the decoder recovers the state from them;
    conversely whatever the parser accepts re-encodes to exactly the same bytes. -/
theorem tree_bytes_are_the_format (c : TreeCfg) (f : TreeFmt) (hm : f.Matches c) (hf : f.Ok) (s : Tree Int Nat)
    (h : Tree.Reach c s) (hkv : f.kvOk s.root) :
    (f.ofBytes (f.toBytes (s.image c 0 0))).bind (fun img => img.decode c 0 0) = some s ∧
    (TreeFmt.u8 f.key f.val).Matches cfgU8 ∧ (TreeFmt.u32 f.key f.val).Matches cfgU32 :=
  ⟨Tree.bytes_roundtrip c f hm hf s h hkv, TreeFmt.u8_matches _ _, TreeFmt.u32_matches _ _⟩

theorem tree_parser_exact (f : TreeFmt) (bs : Bytes) (img : TreeImage Int Nat) (h : f.ofBytes bs = some img) :
    f.toBytes img = bs := TreeFmt.toBytes_of_ofBytes f bs img h

/-- The executable checks the driver evaluates on every decoded *real* state (`wf-bst`, `wf-bal`,
    `wf-alloc`; `wf-alloc`, `wf-placed`; `wf-sorted`) are exactly the invariants of the theorems: a real
    state passes them iff it satisfies `Inv`. -/
theorem driver_checks_are_the_invariants :
    (∀ (c : TreeCfg) (s : Tree Int Nat), (c.wrap = true ∨ s.slots < c.W) →
      (s.Inv c ↔ (T.sortedB s.root.keys = true ∧ s.root.balB = true ∧ s.allocB c = true))) ∧
    (∀ (hash : Nat → Nat) (s : HSet Nat), s.slots < 4294967295 →
      (s.Inv hash ↔ (s.allocB = true ∧ s.placedB hash = true))) ∧
    (∀ (f : AFmt) (s : ASet Nat), s.Inv f.keyOf f.prefixMax ↔ s.wfB f = true) :=
  ⟨fun c s hw => Tree.inv_iff_exec c s hw, fun hash s hs => HSet.inv_iff_exec hash s hs,
   fun f s => ASet.inv_iff_exec f s⟩

/-- The layout facts the byte-level model depends on, as extracted from the sources on this run, are
    the documented format: header word order, register order, `initialize` vectors, 1-based
    `node!` indexing with 0 = none, 0-based `bucket_node!` indexing. -/
theorem source_facts_are_documented_format :
    Facts.tree32Fields = ["Root", "Size", "Capacity", "FreeListHead", "Sequence"] ∧
    Facts.tree8Fields = ["Root", "Size", "Capacity", "FreeListHead", "Sequence"] ∧
    Facts.tree32Registers = ["Left", "Right", "Height"] ∧ Facts.tree8Registers = ["Left", "Right", "Height"] ∧
    Facts.tree32Init = ["SENTINEL", "0", "capacity", "1", "1", "0"] ∧
    Facts.tree8Init = ["SENTINEL", "0", "capacity", "1", "1", "0", "0", "0"] ∧
    Facts.tree32NodeBase = 1 ∧ Facts.tree8NodeBase = 1 ∧
    Facts.hsetFields = ["Size", "Capacity", "FreeListHead", "Sequence"] ∧
    Facts.hsetRegisters = ["Bucket", "Next"] ∧ Facts.hsetInit = ["0", "capacity", "1", "1"] ∧
    Facts.hsetNodeBase = 1 ∧ Facts.hsetBucketBase = 0 := by
  decide

/-- `avl_tree.rs`: after the translated `from_bytes_mut` + `insert` / `remove` on the layout of a reachable state the
    registers are exactly the layout (`Tree.image`) of a reachable state — the format is preserved by the code as
    written, slot for slot and register for register. -/
theorem translated_source_keeps_format_u32 (kd : α) (vd : β) (s : Tree α β) (h : Tree.Reach cfgU32 s) (k : α) (v : β) :
    (∃ s' r, Tree.Reach cfgU32 s' ∧
      Gen32.insert (Imp.dflt kd vd) (Gen32.from_bytes_mut (Imp.dflt kd vd) (s.image cfgU32 kd vd)) k v
        = some (s'.image cfgU32 kd vd, r)) ∧
    (∃ s' r, Tree.Reach cfgU32 s' ∧
      Gen32.remove (Imp.dflt kd vd) (Gen32.from_bytes_mut (Imp.dflt kd vd) (s.image cfgU32 kd vd)) k
        = some (s'.image cfgU32 kd vd, r)) := by
  obtain ⟨s1, r1, h1, _, e1⟩ := GenTree.transition_insert Gen32.bridges kd vd s h k v
  obtain ⟨s2, r2, h2, _, e2⟩ := GenTree.transition_remove Gen32.bridges kd vd s h k
  exact ⟨⟨s1, r1, h1, e1⟩, ⟨s2, r2, h2, e2⟩⟩

/-- `u8_avl_tree.rs`: after the translated `from_bytes_mut` + `insert` / `remove` on the layout of a reachable state the
    registers are exactly the layout (`Tree.image`) of a reachable state — the format is preserved by the code as
    written, slot for slot and register for register. -/
theorem translated_source_keeps_format_u8 (kd : α) (vd : β) (s : Tree α β) (h : Tree.Reach cfgU8 s) (k : α) (v : β) :
    (∃ s' r, Tree.Reach cfgU8 s' ∧
      Gen8.insert (Imp.dflt kd vd) (Gen8.from_bytes_mut (Imp.dflt kd vd) (s.image cfgU8 kd vd)) k v
        = some (s'.image cfgU8 kd vd, r)) ∧
    (∃ s' r, Tree.Reach cfgU8 s' ∧
      Gen8.remove (Imp.dflt kd vd) (Gen8.from_bytes_mut (Imp.dflt kd vd) (s.image cfgU8 kd vd)) k
        = some (s'.image cfgU8 kd vd, r)) := by
  obtain ⟨s1, r1, h1, _, e1⟩ := GenTree.transition_insert Gen8.bridges kd vd s h k v
  obtain ⟨s2, r2, h2, _, e2⟩ := GenTree.transition_remove Gen8.bridges kd vd s h k
  exact ⟨⟨s1, r1, h1, e1⟩, ⟨s2, r2, h2, e2⟩⟩

/-- `data_len` through the translator: the three `data_len` functions of the current source are header plus `c`
    records — the model's `dataLen` for every key/value layout; a buffer of that size is accepted by the view
    constructors with exactly `c` records, and no size strictly between `data_len(c)` and `data_len(c+1)` is accepted. -/
theorem translated_data_len (ft : TreeFmt) (fh : HFmt) (c : Nat) :
    GenV.avl32_data_len ft.hdrSize ft.recSize c = ft.dataLen c ∧
    GenV.avl8_data_len ft.hdrSize ft.recSize c = ft.dataLen c ∧
    GenV.hset_data_len fh.hdrSize fh.recSize c = fh.dataLen c ∧
    (∀ H R (b : ByteArray), 0 < R → b.size = GenV.avl32_data_len H R c →
        ∃ a n, GenV.avl32_from_bytes_mut H R b = some (a, n) ∧ a.size = H ∧ n.size = c * R) ∧
    (∀ H R (b : ByteArray), GenV.avl32_data_len H R c < b.size → b.size < GenV.avl32_data_len H R (c + 1) →
        GenV.avl32_from_bytes_mut H R b = none) := by
  refine ⟨rfl, rfl, rfl, ?_, ?_⟩
  · intro H R b hR hb
    rw [GenV.avl32_from_bytes_mut_eq]
    exact View.split_dataLen hR hb
  · intro H R b h1 h2
    rw [GenV.avl32_from_bytes_mut_eq]
    exact View.split_between h1 h2

/-- "Register/Field enums index the word arrays", through the translator: the twelve accessors of the current source
    (`get_field`, `set_field`, `get_register`, `set_register` of both trees and the hash set) are plain indexing into the
    word array — a write is read back and changes no other word — and, with the variants numbered in declaration order
    (`source_facts_are_documented_format`), the words they select are the header and record fields of the register image
    in the documented order: root, size, capacity, free-list head, sequence; left, right, height; bucket head, next. -/
theorem translated_accessors_index_the_words (ws : List Nat) (i v : Nat) {α β : Type} (rc : Rec α β) (h : Hdr) :
    GenV.avl32_get_register ws i = View.getWord ws i ∧ GenV.avl32_set_register ws i v = View.setWord ws i v ∧
    GenV.avl32_get_field ws i = View.getWord ws i ∧ GenV.avl32_set_field ws i v = View.setWord ws i v ∧
    GenV.avl8_get_register ws i = View.getWord ws i ∧ GenV.avl8_set_register ws i v = View.setWord ws i v ∧
    GenV.avl8_get_field ws i = View.getWord ws i ∧ GenV.avl8_set_field ws i v = View.setWord ws i v ∧
    GenV.hset_get_register ws i = View.getWord ws i ∧ GenV.hset_set_register ws i v = View.setWord ws i v ∧
    GenV.hset_get_field ws i = View.getWord ws i ∧ GenV.hset_set_field ws i v = View.setWord ws i v ∧
    (∀ ws', View.setWord ws i v = some ws' →
      View.getWord ws' i = some v ∧ (∀ j, j ≠ i → View.getWord ws' j = View.getWord ws j) ∧ ws'.length = ws.length) ∧
    GenV.avl32_get_register (View.recWords rc) 0 = some rc.left ∧ GenV.avl32_get_register (View.recWords rc) 1 = some rc.right ∧
    GenV.avl32_get_register (View.recWords rc) 2 = some rc.height ∧
    GenV.avl32_set_register (View.recWords rc) 2 v = some (View.recWords { rc with height := v }) ∧
    GenV.avl32_get_field (View.hdrWords h) 0 = some h.root ∧ GenV.avl32_get_field (View.hdrWords h) 1 = some h.size ∧
    GenV.avl32_get_field (View.hdrWords h) 2 = some h.cap ∧ GenV.avl32_get_field (View.hdrWords h) 3 = some h.flh ∧
    GenV.avl32_get_field (View.hdrWords h) 4 = some h.seq ∧
    GenV.avl32_set_field (View.hdrWords h) 2 v = some (View.hdrWords { h with cap := v }) := by
  obtain ⟨a1, a2, a3, a4, a5, a6, a7, a8, a9, a10, a11, a12⟩ := GenV.accessors_eq ws i v
  obtain ⟨r0, r1, r2, -, -, rs2⟩ := View.tree_register_table rc v
  obtain ⟨f0, f1, f2, f3, f4, -, -, fs2, -, -⟩ := View.tree_field_table h v
  exact ⟨a1, a2, a3, a4, a5, a6, a7, a8, a9, a10, a11, a12, fun ws' hs => View.setWord_spec hs,
    r0, r1, r2, rs2, f0, f1, f2, f3, f4, fs2⟩

end Stevia.C10
