/-
  C15 — pod bool/option and load/load_mut are total, size-transparent views.
-/
import Stevia.Proofs.StrState
import Stevia.Generated.Facts
import Stevia.Proofs.GenPod

namespace Stevia.C15

/-- Every one of the 256 byte values decodes to a bool: zero is false, anything else true. -/
theorem bool_decode_all (b : UInt8) : Pod.boolDecode b = true ↔ b ≠ 0 := Pod.boolDecode_spec b

/-- The predicate written in pod_bool.rs (extracted from the source on this run, both the by-value and
    the by-reference conversion) is the model's. -/
theorem source_predicate_is_model (b : UInt8) :
    Facts.podBoolPred b = Pod.boolDecode b ∧ Facts.podBoolPredRef b = Pod.boolDecode b := by
  simp only [Facts.podBoolPred, Facts.podBoolPredRef, Pod.boolDecode, and_self]

/-- bool → pod → bool is the identity, with encodings 0 and 1. -/
theorem bool_roundtrip (x : Bool) :
    Pod.boolDecode (Pod.boolEncode x) = x ∧ (Pod.boolEncode x = 0 ∨ Pod.boolEncode x = 1) := Pod.bool_roundtrip x

/-- Loading is a pure view of exactly the first `size_of` bytes; a too-short buffer is rejected, not read. -/
theorem load_view (n : Nat) (data : ByteArray) :
    (data.size < n ∧ Pod.load n data = .error .oob) ∨
    (n ≤ data.size ∧ Pod.load n data = .ok (data.extract 0 n) ∧ (data.extract 0 n).size = n) := Pod.load_spec n data

/-- Trailing bytes are ignored. -/
theorem load_ignores_trailing (n : Nat) (d1 d2 : ByteArray) (h1 : n ≤ d1.size) (h2 : n ≤ d2.size)
    (he : d1.extract 0 n = d2.extract 0 n) : Pod.load n d1 = Pod.load n d2 := Pod.load_ignores_trailing n d1 d2 h1 h2 he

/-- Writes through `load_mut` land in the buffer, and only in its first `size_of` bytes. -/
theorem load_mut_writes_through (n : Nat) (data v : ByteArray) (hv : v.size = n) (hd : n ≤ data.size) :
    ∃ d', Pod.storeMut n data v = .ok d' ∧ d'.size = data.size ∧ Pod.load n d' = .ok v ∧
      d'.extract n d'.size = data.extract n data.size := Pod.storeMut_spec n data v hv hd

/-- A pod option occupies exactly the bytes of its inner type (it *is* the inner value), and
    `value()` / `value_mut()` are `Some` exactly when the inner value reports itself as some. -/
theorem option_value (isSome : ByteArray → Bool) (inner : ByteArray) :
    ((Pod.optValue isSome inner).isSome = isSome inner) ∧
    (isSome inner = true → Pod.optValue isSome inner = some inner) := Pod.optValue_spec isSome inner

/-- Tie through the translator (`Stevia.GenPod.*`, regenerated from `pod_bool.rs`, `pod_option.rs` and `lib.rs` on every
    run): the translated conversions, `value`/`value_mut` and `load`/`load_mut` are the model's; `PodOption::new` wraps
    the inner value unchanged, so `new(x).value()` is `Some(x)` whenever `x` is a some-pattern. -/
theorem translated_pod_is_the_model (b : UInt8) (x : Bool) (isSome isNone : ByteArray → Bool) (inner data : ByteArray)
    (n : Nat) :
    GenPod.pod_to_bool b = Pod.boolDecode b ∧ GenPod.pod_ref_to_bool b = Pod.boolDecode b ∧
    GenPod.bool_to_pod x = Pod.boolEncode x ∧ GenPod.bool_ref_to_pod x = Pod.boolEncode x ∧
    GenPod.option_value isSome isNone inner = Pod.optValue isSome inner ∧
    GenPod.option_value_mut isSome isNone inner = Pod.optValue isSome inner ∧
    GenPod.load n data = (Pod.load n data).toOption ∧ GenPod.load_mut n data = (Pod.load n data).toOption ∧
    GenPod.option_new inner = inner ∧
    (isSome inner = true → GenPod.option_value isSome isNone (GenPod.option_new inner) = some inner) :=
  ⟨(GenPod.pod_to_bool_eq b).1, (GenPod.pod_to_bool_eq b).2, (GenPod.bool_to_pod_eq x).1, (GenPod.bool_to_pod_eq x).2,
   (GenPod.option_value_eq isSome isNone inner).1, (GenPod.option_value_eq isSome isNone inner).2, (GenPod.load_eq n data).1,
   (GenPod.load_eq n data).2, GenPod.option_new_eq inner,
   fun h => by
     rw [GenPod.option_new_eq, (GenPod.option_value_eq isSome isNone inner).1]
     exact (Pod.optValue_spec isSome inner).2 h⟩

end Stevia.C15
