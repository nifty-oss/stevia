/-
  C13 — prefixed strings expose the payload, store what fits, survive reload.
-/
import Stevia.Proofs.GenStr

namespace Stevia.C13

/-- Creating a prefixed string: a buffer shorter than the prefix is rejected by panic; otherwise the
    whole payload area — clamped to what the prefix can express, never wrapped modulo 2^(8w) — is
    exposed as the string, its length is recorded little-endian in the prefix, the buffer keeps its size and
    no payload byte changes. (`w = 1, P = 255` and `w = 2, P = 65535` are the crate's two widths.) -/
theorem new_spec (w P : Nat) (hP : P < 256 ^ w) (buf : ByteArray) :
    (buf.size < w ∧ PStr.new w P buf = .error .oob) ∨
    (w ≤ buf.size ∧ ∃ b' r, PStr.new w P buf = .ok (b', r) ∧ b'.size = buf.size ∧
        PStr.recLen w b' = min (buf.size - w) P ∧ b'.extract w b'.size = buf.extract w buf.size ∧
        PStr.payload w b' = buf.extract w (w + min (buf.size - w) P) ∧
        (r = true ↔ (PStr.payload w b').IsValidUTF8)) := PStr.new_spec w P hP buf

/-- The recorded length is written little-endian: it is what decoding the `w` prefix bytes gives, and
    for a payload area beyond the prefix maximum it is the maximum (255 for 256/257 bytes, 65535 for
    65536/65537 bytes), not the area size modulo 2^(8w). -/
theorem new_clamps (w P : Nat) (hP : P < 256 ^ w) (buf b' : ByteArray) (r : Bool) (hbig : P ≤ buf.size - w)
    (hw : w ≤ buf.size) (h : PStr.new w P buf = .ok (b', r)) : PStr.recLen w b' = P := by
  rcases PStr.new_spec w P hP buf with ⟨h1, _⟩ | ⟨_, b2, r2, h2, _, hl, _⟩
  · omega
  · rw [h2] at h; cases h; rw [hl]; exact Nat.min_eq_right hbig

/-- Copying text: the length prefix is unchanged, the buffer keeps its size, the payload becomes the cut
    text followed by zeros (so no earlier content survives), bytes beyond the recorded length are untouched. -/
theorem copy_spec (w : Nat) (buf : ByteArray) (s : String) (hw : w ≤ buf.size)
    (hl : PStr.recLen w buf ≤ buf.size - w) :
    let n := floorBoundary s (min (PStr.recLen w buf) s.utf8ByteSize)
    (PStr.copyFromStr w buf s).size = buf.size ∧
    PStr.recLen w (PStr.copyFromStr w buf s) = PStr.recLen w buf ∧
    PStr.payload w (PStr.copyFromStr w buf s) = s.toByteArray.extract 0 n ++ zerosBA (PStr.recLen w buf - n) ∧
    (PStr.copyFromStr w buf s).extract (w + PStr.recLen w buf) buf.size
      = buf.extract (w + PStr.recLen w buf) buf.size := PStr.copy_spec w buf s hw hl

/-- The cut is the *longest* prefix of the text that fits without splitting a character: it is a
    char boundary within the limit, and no char boundary lies between it and the limit. -/
theorem cut_is_longest (s : String) (limit : Nat) :
    floorBoundary s limit ≤ limit ∧ (String.Pos.Raw.mk (floorBoundary s limit)).IsValid s ∧
    ∀ m, m ≤ limit → (String.Pos.Raw.mk m).IsValid s → m ≤ floorBoundary s limit :=
  ⟨floorBoundary_le s limit, floorBoundary_isValid s limit, fun m hm hv => floorBoundary_max s limit m hm hv⟩

/-- A text that fits is stored whole. -/
theorem fits_stored_whole (w : Nat) (buf : ByteArray) (s : String) (hfit : s.utf8ByteSize ≤ PStr.recLen w buf) :
    floorBoundary s (min (PStr.recLen w buf) s.utf8ByteSize) = s.utf8ByteSize := floorBoundary_fits s hfit

/-- Re-loading the same bytes returns the identical string. -/
theorem reload (w : Nat) (buf : ByteArray) (s : String) (hw : w ≤ buf.size) (hl : PStr.recLen w buf ≤ buf.size - w) :
    PStr.fromBytes w (PStr.copyFromStr w buf s) = .ok (some (PStr.payload w (PStr.copyFromStr w buf s))) :=
  PStr.reload_after_copy w buf s hw hl

/-- The result of a copy is independent of the earlier payload (sequences of copies of decreasing /
    increasing length leave no residue). -/
theorem copy_forgets (w : Nat) (b1 b2 : ByteArray) (s : String) (hs : b1.size = b2.size)
    (hw : w ≤ b1.size) (hp : b1.extract 0 w = b2.extract 0 w) (hl : PStr.recLen w b1 ≤ b1.size - w)
    (ht : b1.extract (w + PStr.recLen w b1) b1.size = b2.extract (w + PStr.recLen w b1) b2.size) :
    PStr.copyFromStr w b1 s = PStr.copyFromStr w b2 s := PStr.copy_forgets w b1 b2 s hs hw hp hl ht

/-- Loading reads the prefix and the payload only — trailing bytes beyond the recorded length are
    ignored — and `size()` is the prefix width plus the string length. -/
theorem load_reads_payload_only (w : Nat) (buf : ByteArray) (hw : w ≤ buf.size) (hl : PStr.recLen w buf ≤ buf.size - w) :
    PStr.fromBytes w buf = .ok (if (PStr.payload w buf).validateUTF8 then some (PStr.payload w buf) else none) ∧
    PStr.size w buf = w + PStr.recLen w buf := ⟨(PStr.fromBytes_spec w buf hw hl).1, rfl⟩

/-- Tie through the translator (`Stevia.GenP.*`, regenerated from `prefix_str.rs` on every run): the translated `new`,
    `copy_from_str` and `size` are the model's, so everything above holds for the code as written. -/
theorem translated_prefix_str_is_the_model (W P N : Nat) (hP : P < 256 ^ W) (buf : ByteArray) (s : String) :
    (GenP.new W P N buf).map (fun r => (r.1, r.2.isSome)) = (PStr.new W P buf).toOption ∧
    (W + PStr.recLen W buf ≤ buf.size →
      (∃ v, GenP.copy_from_str W P N (PStr.payload W buf) s = some v ∧
        PStr.copyFromStr W buf s = buf.extract 0 W ++ v ++ buf.extract (W + PStr.recLen W buf) buf.size) ∧
      GenP.size W P N (PStr.payload W buf) = some (PStr.size W buf)) :=
  ⟨GenP.new_eq W P N hP buf, fun hw => ⟨GenP.copy_from_str_buf W P N buf s hw, GenP.size_eq W P N buf hw⟩⟩

end Stevia.C13
