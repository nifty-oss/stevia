/-
  C06 — lookups stay logarithmic: AVL balance in every reachable state; binary
  search in array sets.
-/
import Stevia.Proofs.TreeState
import Stevia.Proofs.ArraySetState
import Stevia.Generated.Facts
import Stevia.Proofs.GenTreeBal

namespace Stevia.C06
variable {α β : Type} [LinOrd α]

/-- In every reachable state (any history of insertions, removals, updates,
    re-opening and buffer growth) the two subtrees of every node differ in
    height by at most one and every stored height register is exact. -/
theorem reach_bal (c : TreeCfg) (s : Tree α β) (h : Tree.Reach c s) : s.root.Bal :=
  (Tree.reach_inv h).bal

/-- The height is at most the greatest height a height-balanced tree with that many
    entries can have: `minNodes (height) ≤ entries`. -/
theorem height_bound (c : TreeCfg) (s : Tree α β) (h : Tree.Reach c s) :
    minNodes s.root.height ≤ s.size :=
  (Tree.reach_inv h).size_eq ▸ T.minNodes_height_le_size (Tree.reach_inv h).bal

/-- Closed form: `2^(height/2) ≤ entries + 1`, i.e. `height ≤ 2·log2(entries + 1)` (the exact bound is
    `minNodes`, ≈ 1.44·log2(n+2)). -/
theorem height_closed_form (c : TreeCfg) (s : Tree α β) (h : Tree.Reach c s) :
    2 ^ (s.root.height / 2) ≤ s.size + 1 := Tree.height_closed_form c s h

/-- A lookup, insertion or removal compares the sought key only with the keys of one
    root-to-leaf path (`T.path` follows exactly one child per node), whose length is
    bounded by that height. -/
theorem comparisons_bound (c : TreeCfg) (s : Tree α β) (h : Tree.Reach c s) (k : α) :
    (s.root.path k).length ≤ s.root.height ∧ minNodes s.root.height ≤ s.size :=
  ⟨T.path_length_le s.root k, height_bound c s h⟩

/-- `minNodes` is attained: the bound is exactly the greatest height a height-balanced tree of
    that size can have. -/
def fibT : Nat → T Unit Unit
  | 0 => .nil
  | 1 => .node 0 .nil () () 0 .nil
  | h + 2 => .node 0 (fibT (h + 1)) () () (h + 1) (fibT h)

theorem fibT_spec (h : Nat) : (fibT h).Bal ∧ (fibT h).ht = h ∧ (fibT h).size = minNodes h := by
  induction h using Nat.strongRecOn with
  | _ h ih =>
    match h with
    | 0 => simp [fibT, T.Bal, T.ht, T.size, minNodes]
    | 1 => simp [fibT, T.Bal, T.ht, T.size, minNodes]
    | h + 2 =>
      obtain ⟨b1, h1, s1⟩ := ih (h + 1) (by omega)
      obtain ⟨b0, h0, s0⟩ := ih h (by omega)
      refine ⟨?_, ?_, ?_⟩
      · simp only [fibT, T.Bal]
        refine ⟨b1, b0, ?_, ?_, ?_⟩ <;> (rw [h1, h0]; omega)
      · simp [fibT, T.ht]
      · simp only [fibT, T.size, s1, s0, minNodes]; omega

/-- Numeric consequences used for the height casts of the code: an 8-bit tree
    (at most 255 entries) has height at most 11. -/
theorem height_le_of_size_le_255 (c : TreeCfg) (s : Tree α β) (h : Tree.Reach c s) (hs : s.size ≤ 255) :
    s.root.height ≤ 11 := by
  have hb := height_bound c s h
  refine Decidable.by_contra fun hn => ?_
  have := minNodes_le_of_le (show 12 ≤ s.root.height by omega)
  have h376 : minNodes 12 = 376 := by decide
  omega

omit [LinOrd α] in
/-- Array-set lookups: a lookup among `n ≥ 1` elements compares the sought value with at
    most `⌊log2 n⌋ + 1` elements (`2^(probes-1) ≤ n`) — one fewer than the
    `⌈log2(n+1)⌉ + 1` the property allows — and with none when the set is empty. -/
theorem array_probe_bound {κ : Type} [LinOrd κ] {key : α → κ} {P : Nat} {s : ASet α}
    (h : s.Inv key P) (x : κ) {r : Idx} {ps : List Nat} (hi : s.indexP key x = .ok (r, ps)) :
    ps.length = 0 ∨ 2 ^ (ps.length - 1) ≤ s.len :=
  ASet.probe_bound x hi

/-- The conditions under which `rebalance` rotates, as written in both source files (extracted on
    this run), are the ones of the model's `T.rebal`: with `bf = ht l - ht r` the code rotates right iff
    `bf > 1` (model: `ht r + 1 < ht l`), rotates the left child first iff its factor is `< 0` (model:
    `ht l.left < ht l.right`), and symmetrically. Robust to equivalent rewrites (`1 < bf`, `bf >= 2`). -/
theorem source_rebalance_conditions_are_the_models (l r ll lr rl rr : Nat) :
    (Facts.tree32HeavyLeft ((l : Int) - r) = decide (r + 1 < l)) ∧
    (Facts.tree32LeftChildRightHeavy ((ll : Int) - lr) = decide (ll < lr)) ∧
    (Facts.tree32HeavyRight ((l : Int) - r) = decide (l + 1 < r)) ∧
    (Facts.tree32RightChildLeftHeavy ((rl : Int) - rr) = decide (rr < rl)) ∧
    (Facts.tree8HeavyLeft ((l : Int) - r) = decide (r + 1 < l)) ∧
    (Facts.tree8LeftChildRightHeavy ((ll : Int) - lr) = decide (ll < lr)) ∧
    (Facts.tree8HeavyRight ((l : Int) - r) = decide (l + 1 < r)) ∧
    (Facts.tree8RightChildLeftHeavy ((rl : Int) - rr) = decide (rr < rl)) := by
  simp only [Facts.tree32HeavyLeft, Facts.tree32LeftChildRightHeavy, Facts.tree32HeavyRight,
    Facts.tree32RightChildLeftHeavy, Facts.tree8HeavyLeft, Facts.tree8LeftChildRightHeavy,
    Facts.tree8HeavyRight, Facts.tree8RightChildLeftHeavy, decide_eq_decide]
  omega

/-- Non-vacuity: the Fibonacci tree of height 4 is balanced with 7 nodes. -/
example : (fibT 4).Bal ∧ (fibT 4).size = 7 := ⟨(fibT_spec 4).1, by decide⟩

/-- `avl_tree.rs`: the translated `balance_factor`, rotations, `update_child`/`update_height` and the bottom-up `rebalance`
    loop are the literal model's (whose effect on a represented tree is `T.rebal` along the path,
    `Proofs/TreeImpLoop.rebalance_loop`). -/
theorem translated_rebalance_u32 (d : Rec α β) (m : TreeImage α β) :
    (∀ path, Gen32.rebalance d m path = Imp.rebalance d m path) ∧
    (∀ l r, Gen32.balance_factor d m l r = Imp.balanceFactor d m l r) ∧
    (∀ i, Gen32.left_rotate d m i = Imp.leftRotate d m i) ∧
    (∀ i, Gen32.right_rotate d m i = Imp.rightRotate d m i) ∧
    (∀ p b ch, Gen32.update_child d m p b ch = Imp.updateChild d m p b ch) ∧
    (∀ i, Gen32.update_height d m i = Imp.updateHeight d m i) :=
  ⟨Gen32.rebalance_eq d m, Gen32.balance_factor_eq d m, Gen32.left_rotate_eq d m, Gen32.right_rotate_eq d m,
   Gen32.update_child_eq d m, Gen32.update_height_eq d m⟩

/-- `u8_avl_tree.rs`: the translated `balance_factor`, rotations, `update_child`/`update_height` and the bottom-up `rebalance`
    loop are the literal model's (whose effect on a represented tree is `T.rebal` along the path,
    `Proofs/TreeImpLoop.rebalance_loop`). -/
theorem translated_rebalance_u8 (d : Rec α β) (m : TreeImage α β) :
    (∀ path, Gen8.rebalance d m path = Imp.rebalance d m path) ∧
    (∀ l r, Gen8.balance_factor d m l r = Imp.balanceFactor d m l r) ∧
    (∀ i, Gen8.left_rotate d m i = Imp.leftRotate d m i) ∧
    (∀ i, Gen8.right_rotate d m i = Imp.rightRotate d m i) ∧
    (∀ p b ch, Gen8.update_child d m p b ch = Imp.updateChild d m p b ch) ∧
    (∀ i, Gen8.update_height d m i = Imp.updateHeight d m i) :=
  ⟨Gen8.rebalance_eq d m, Gen8.balance_factor_eq d m, Gen8.left_rotate_eq d m, Gen8.right_rotate_eq d m,
   Gen8.update_child_eq d m, Gen8.update_height_eq d m⟩

end Stevia.C06
