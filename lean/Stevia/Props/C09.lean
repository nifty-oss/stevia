/-
  C09 — refused operations and queries leave every byte unchanged.  In the
  model "every byte" is the whole state (the bytes are a function of it:
  `Tree.image`, `HSet.image`, `AFmt.toBytes`).
-/
import Stevia.Proofs.HashSetState
import Stevia.Proofs.ArraySetState
import Stevia.Proofs.GenTreeRefine
import Stevia.Proofs.GenTreeOps

namespace Stevia.C09
variable {α β : Type} [LinOrd α]

/-- Tree `insert` that reports `None` (duplicate key or full tree) returns the identical state. -/
theorem tree_insert_refused (c : TreeCfg) (s s' : Tree α β) (k : α) (v : β)
    (h : s.insert c k v = .ok (s', none)) : s' = s := by
  -- here and in the refusals below: walk the branches of the model; one that answers `none`/`false` returns `s` itself,
  -- every other contradicts `h`
  unfold Tree.insert at h
  split at h
  · cases h; rfl
  · split at h
    · cases h; rfl
    · split at h
      · cases h
      · cases h

/-- Tree `remove` that reports `None` (absent key) returns the identical state. -/
theorem tree_remove_refused (s s' : Tree α β) (k : α) (h : s.remove k = .ok (s', none)) : s' = s := by
  unfold Tree.remove at h
  split at h
  · cases h; rfl
  · split at h
    · cases h
    · cases h

/-- `get_mut` that finds nothing leaves the state unchanged. -/
theorem tree_update_refused (s : Tree α β) (k : α) (v : β) (h : (s.update k v).2 = false) :
    (s.update k v).1 = s := by
  unfold Tree.update at *
  split at h
  · rfl
  · cases h

/-- Queries are functions of the state only (they return no new state at all):
    `get`, `contains`, `lowest`, `len`, `capacity`, `is_full`, `is_empty` are pure. -/
theorem tree_queries_pure (c : TreeCfg) (s : Tree α β) (op : MapOp α β)
    (hq : match op with | .insert .. => False | .remove .. => False | .update .. => False | _ => True) :
    ∃ o, s.mapStep c op = .ok (s, o) := by
  cases op <;> first | exact hq.elim | exact ⟨_, rfl⟩

omit [LinOrd α] in
/-- Hash set: refused insert / remove return the identical state. -/
theorem hset_insert_refused {γ : Type} [DecidableEq γ] (hash : γ → Nat) (s s' : HSet γ) (v : γ)
    (h : s.insert hash v = .ok (s', false)) : s' = s := by
  unfold HSet.insert at h
  split at h
  · cases h; rfl
  · split at h
    · cases h
    · dsimp only at h
      split at h
      · cases h
      · split at h
        · cases h; rfl
        · split at h <;> cases h

omit [LinOrd α] in
theorem hset_remove_refused {γ : Type} [DecidableEq γ] (hash : γ → Nat) (s s' : HSet γ) (v : γ)
    (h : s.remove hash v = .ok (s', false)) : s' = s := by
  unfold HSet.remove at h
  split at h
  · cases h; rfl
  · split at h
    · cases h
    · dsimp only at h
      split at h
      · cases h
      · split at h
        · cases h; rfl
        · cases h

omit [LinOrd α] in
/-- Array set: refused insert / take / get_mut return the identical state. -/
theorem aset_insert_refused {κ : Type} [LinOrd κ] (key : α → κ) (P : Nat) (s s' : ASet α) (x : α)
    (h : s.insert key P x = .ok (s', false)) : s' = s := by
  unfold ASet.insert at h
  split at h
  · cases h; rfl
  · split at h
    · cases h
    · cases h; rfl
    · split at h
      · cases h
      · split at h <;> cases h

omit [LinOrd α] in
theorem aset_take_refused {κ : Type} [LinOrd κ] (key : α → κ) (s s' : ASet α) (x : κ)
    (h : s.take key x = .ok (s', none)) : s' = s := by
  unfold ASet.take at h
  split at h
  · cases h; rfl
  · split at h
    · cases h
    · cases h; rfl
    · split at h
      · cases h
      · split at h
        · split at h <;> cases h
        · cases h

/-- `avl_tree.rs`: when the model refuses an insertion (duplicate key or full tree) resp. a removal (absent key), the
    translated function run on the layout of the state returns that very layout. -/
theorem translated_refusals_u32 (kd : α) (vd : β) (s : Tree α β) (h : s.Inv cfgU32) (k : α) (v : β) :
    (∀ s', s.insert cfgU32 k v = .ok (s', none) →
      Gen32.insert (Imp.dflt kd vd) (s.image cfgU32 kd vd) k v = some (s.image cfgU32 kd vd, none)) ∧
    (∀ s', s.remove k = .ok (s', none) →
      Gen32.remove (Imp.dflt kd vd) (s.image cfgU32 kd vd) k = some (s.image cfgU32 kd vd, none)) := by
  refine ⟨fun s' hi => ?_, fun s' hr => ?_⟩
  · cases tree_insert_refused cfgU32 s s' k v hi
    exact GenTree.insert_refines Gen32.bridges kd vd s s h k v none hi
  · cases tree_remove_refused s s' k hr
    exact GenTree.remove_refines Gen32.bridges kd vd s s h k none hr

/-- `u8_avl_tree.rs`: when the model refuses an insertion (duplicate key or full tree) resp. a removal (absent key), the
    translated function run on the layout of the state returns that very layout. -/
theorem translated_refusals_u8 (kd : α) (vd : β) (s : Tree α β) (h : s.Inv cfgU8) (k : α) (v : β) :
    (∀ s', s.insert cfgU8 k v = .ok (s', none) →
      Gen8.insert (Imp.dflt kd vd) (s.image cfgU8 kd vd) k v = some (s.image cfgU8 kd vd, none)) ∧
    (∀ s', s.remove k = .ok (s', none) →
      Gen8.remove (Imp.dflt kd vd) (s.image cfgU8 kd vd) k = some (s.image cfgU8 kd vd, none)) := by
  refine ⟨fun s' hi => ?_, fun s' hr => ?_⟩
  · cases tree_insert_refused cfgU8 s s' k v hi
    exact GenTree.insert_refines Gen8.bridges kd vd s s h k v none hi
  · cases tree_remove_refused s s' k hr
    exact GenTree.remove_refines Gen8.bridges kd vd s s h k none hr

end Stevia.C09
