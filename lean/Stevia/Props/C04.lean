/-
  C04 — all state lives in the bytes: collections can be dropped and re-opened.
  In the model a handle is nothing but the decoded bytes, so "re-open from the same
  bytes" is `decode ∘ image`.  Addresses are not part of the model: independence of
  the buffer's address is checked on the implementation (every transition is run at
  two addresses), not proved.
-/
import Stevia.Proofs.BytesRT
import Stevia.Proofs.GenTreeOpen
import Stevia.Proofs.GenViewsFmt

namespace Stevia.C04
variable {α β : Type} [LinOrd α]

/-- Dropping the handle and re-opening from the bytes at any point of any history gives back
    exactly the state: the layout of a reachable state decodes to it. -/
theorem tree_reopen_same_state [DecidableEq α] [DecidableEq β] (c : TreeCfg) (kd : α) (vd : β)
    (s : Tree α β) (h : Tree.Reach c s) : (s.image c kd vd).decode c kd vd = some s :=
  TreeImage.decode_image c kd vd s (Tree.reach_inv h).layoutOk

/-- Hence an operation applied after a round trip through the bytes behaves exactly as on
    the uninterrupted original (same result, same successor state), for every operation. -/
theorem tree_step_through_bytes [DecidableEq α] [DecidableEq β] (c : TreeCfg) (kd : α) (vd : β)
    (s : Tree α β) (h : Tree.Reach c s) (op : TreeOp α β) :
    ((s.image c kd vd).decode c kd vd).map (fun s0 => s0.step c op) = some (s.step c op) := by
  rw [tree_reopen_same_state c kd vd s h]; rfl

theorem tree_query_through_bytes [DecidableEq α] [DecidableEq β] (c : TreeCfg) (kd : α) (vd : β)
    (s : Tree α β) (h : Tree.Reach c s) (ops : List (MapOp α β)) :
    ((s.image c kd vd).decode c kd vd).map (fun s0 => s0.mapRun c ops) = some (s.mapRun c ops) := by
  rw [tree_reopen_same_state c kd vd s h]; rfl

/-- Re-opening (mutably) a tree whose buffer size still matches its capacity changes nothing. -/
theorem tree_reopen_identity (c : TreeCfg) (s : Tree α β) (h : s.slots ≤ s.cap) : s.openMut c = s :=
  Tree.openMut_id c s h

/-- Re-opening is idempotent: opening an already opened tree again changes nothing. -/
theorem tree_reopen_idempotent (c : TreeCfg) (s : Tree α β) (h : Tree.Reach c s) :
    (s.openMut c).openMut c = s.openMut c := by
  rw [Tree.openMut_eq (Tree.reach_inv h)]
  exact Tree.openMut_id c _ (Nat.le_refl _)

/-- At byte level, for both index widths and any key/value scalars: parsing the bytes of a reachable
    state's buffer and decoding them gives back the state — the state is a function of the bytes alone. -/
theorem tree_reopen_from_bytes (c : TreeCfg) (f : TreeFmt) (hm : f.Matches c) (hf : f.Ok) (s : Tree Int Nat)
    (h : Tree.Reach c s) (hkv : f.kvOk s.root) :
    (f.ofBytes (f.toBytes (s.image c 0 0))).bind (fun img => img.decode c 0 0) = some s :=
  Tree.bytes_roundtrip c f hm hf s h hkv

theorem hset_reopen_from_bytes (hash : Nat → Nat) (f : HFmt) (hf : f.Ok) (s : HSet Nat) (h : s.Inv hash)
    (hv : f.valsOk s) : (f.ofBytes (f.toBytes (s.image 0))).bind (fun img => img.decode 0) = some s :=
  HSet.bytes_roundtrip hash f hf s h hv

set_option linter.unusedVariables false in
theorem aset_reopen_from_bytes (f : AFmt) (hp : 0 < f.pw) (hv : 0 < f.vsz) (s : ASet Nat)
    (h : s.Inv f.keyOf f.prefixMax) (hvals : ∀ v ∈ s.vals, v < 256 ^ f.vsz) :
    f.ofBytes (f.toBytes s) = some s := ASet.bytes_roundtrip f hv s h hvals

/-- Hash set: the layout of a well-formed state decodes to it (opening never writes: the model
    has no open operation at all for hash and array sets). -/
theorem hset_reopen_same_state {γ : Type} [DecidableEq γ] (hash : γ → Nat) (vd : γ) (s : HSet γ)
    (h : s.Inv hash) : (s.image vd).decode vd = some s :=
  HImage.decode_image vd s h.layoutOk

/-- `avl_tree.rs`: the translated `from_bytes_mut` leaves an image whose record count does not exceed its capacity word
    untouched — every register, every header word — and in general is the model's `openMut` on layouts. -/
theorem translated_reopen_u32 (d : Rec α β) (m : TreeImage α β) (hm : m.recs.length ≤ m.hdr.cap) :
    Gen32.from_bytes_mut d m = m := by
  rw [Gen32.from_bytes_mut_eq]
  unfold Imp.openMut
  rw [if_neg (by omega)]

/-- `u8_avl_tree.rs`: the translated `from_bytes_mut` leaves an image whose record count does not exceed its capacity word
    untouched — every register, every header word — and in general is the model's `openMut` on layouts. -/
theorem translated_reopen_u8 (d : Rec α β) (m : TreeImage α β) (hm : m.recs.length ≤ m.hdr.cap) :
    Gen8.from_bytes_mut d m = m := by
  rw [Gen8.from_bytes_mut_eq]
  unfold Imp.openMut
  rw [if_neg (by omega)]

/-- Byte level, through the translator: in the current source EVERY view constructor — read-only and mutable, of both
    trees, of the hash set and of the array sets — cuts the caller's buffer at `size_of(header)`, guards the two parts with
    checked casts and builds the handle from exactly those two parts (`View.split`; the translator refuses any further
    statement or field, so a handle holds no derived state). Both views of the same bytes therefore see the same
    header and the same records, and the two parts reassemble the buffer: nothing but the bytes is state. -/
theorem translated_views_keep_no_state (H R : Nat) (b : ByteArray) :
    GenV.avl32_from_bytes H R b = View.split H R b ∧ GenV.avl32_from_bytes_mut H R b = View.split H R b ∧
    GenV.avl8_from_bytes H R b = View.split H R b ∧ GenV.avl8_from_bytes_mut H R b = View.split H R b ∧
    GenV.hset_from_bytes H R b = View.split H R b ∧ GenV.hset_from_bytes_mut H R b = View.split H R b ∧
    GenV.aset_from_bytes H R b = View.split H R b ∧ GenV.aset_from_bytes_mut H R b = View.split H R b ∧
    (∀ a n, View.split H R b = some (a, n) → a ++ n = b) :=
  ⟨GenV.avl32_from_bytes_eq H R b, GenV.avl32_from_bytes_mut_eq H R b, GenV.avl8_from_bytes_eq H R b,
   GenV.avl8_from_bytes_mut_eq H R b, GenV.hset_from_bytes_eq H R b, GenV.hset_from_bytes_mut_eq H R b,
   GenV.aset_from_bytes_eq H R b, GenV.aset_from_bytes_mut_eq H R b, fun _ _ h => (View.split_parts h).2.2.2.2.2⟩

/-- Whatever the format readers of the model accept (`ofBytes`, the inverse of the layout used in the re-open theorems
    above), the implementation's views accept: the bytes of every reachable state can be opened. -/
theorem translated_views_open_the_format (ft : TreeFmt) (fh : HFmt) (fa : AFmt) (bs : Bytes) :
    (∀ img, ft.ofBytes bs = some img → (View.split ft.hdrSize ft.recSize (View.ofList bs)).isSome) ∧
    (∀ img, fh.ofBytes bs = some img → (View.split fh.hdrSize fh.recSize (View.ofList bs)).isSome) ∧
    (∀ s, fa.ofBytes bs = some s → (View.split fa.pw fa.vsz (View.ofList bs)).isSome) :=
  ⟨fun _ h => View.accepts_of_guards h, fun _ h => View.accepts_of_guards h, fun _ h => View.accepts_of_guards h⟩

-- non-vacuity: a 24-byte header and two 12-byte records
example : (View.split 24 12 (View.ofList (List.replicate 48 7))).isSome := by decide

end Stevia.C04
