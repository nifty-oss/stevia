/-
  C05 — no operation touches memory outside the buffer it was given.
  Only array_set.rs performs raw memory access (two `ptr::copy` calls).  The first
  group of theorems is stated over `Stevia.Facts.*`, which the extractor regenerates
  from /repo's sources on every run: they are re-proved against the code as it is now.
-/
import Stevia.Generated.Facts
import Stevia.Proofs.GenASetRefine
import Stevia.Proofs.GenViews

namespace Stevia.C05

/-- `insert`: under the guards the code establishes before the copy (`!is_full()` gives
    `len < slots`; binary search gives `index ≤ len`) both ranges of the raw copy — as the
    source currently writes them — stay inside the value slots. -/
theorem insert_copy_in_bounds (index len slots : Nat) (h1 : len < slots) (h2 : index ≤ len) :
    Facts.insertCopySrc index len slots + Facts.insertCopyCnt index len slots ≤ slots ∧
    Facts.insertCopyDst index len slots + Facts.insertCopyCnt index len slots ≤ slots := by
  simp only [Facts.insertCopySrc, Facts.insertCopyDst, Facts.insertCopyCnt]
  omega

/-- `take`: under `len ≤ slots` and the code's guard `index < len - 1`. -/
theorem take_copy_in_bounds (index len slots : Nat) (h1 : len ≤ slots) (h2 : index < len - 1) :
    Facts.takeCopySrc index len slots + Facts.takeCopyCnt index len slots ≤ slots ∧
    Facts.takeCopyDst index len slots + Facts.takeCopyCnt index len slots ≤ slots := by
  simp only [Facts.takeCopySrc, Facts.takeCopyDst, Facts.takeCopyCnt]
  omega

/-- Inventory of raw memory access: every raw memory-access primitive of array_set.rs is one of the
    copies bounded above, and no other file of the crate contains one (their `unsafe` is
    `from_utf8_unchecked` — a validity obligation, C11 — and marker `unsafe impl Pod/Zeroable`). A new
    raw-access site anywhere breaks this theorem; replacing a raw copy by safe code does not. -/
theorem raw_access_inventory :
    Facts.unsafe_arraySet.2.2.2 = Facts.modelledCopies ∧
    Facts.unsafe_avlTree.2.2.2 = 0 ∧ Facts.unsafe_u8AvlTree.2.2.2 = 0 ∧ Facts.unsafe_hashSet.2.2.2 = 0 ∧
    Facts.unsafe_prefixStr.2.2.2 = 0 ∧ Facts.unsafe_podStr.2.2.2 = 0 ∧ Facts.unsafe_podBool.2.2.2 = 0 ∧
    Facts.unsafe_podOption.2.2.2 = 0 ∧ Facts.unsafe_lib.2.2.2 = 0 := by
  decide

variable {α κ : Type} [LinOrd κ]

/-- In the model a raw copy that left the slice would be `Fault.oob`; on well-formed sets
    no operation ever faults — in particular no copy leaves the buffer — and the result is a function
    of the buffer's own contents only (the model has no other input). -/
theorem model_never_out_of_bounds {key : α → κ} {P : Nat} {s : ASet α} (h : s.Inv key P) (op : ASOp α κ) :
    ∃ s' o, s.opStep key P op = .ok (s', o) ∧ s'.Inv key P ∧ s'.slots = s.slots := by
  obtain ⟨s', h1, h2, _, h4⟩ := ASet.opStep_refines h op
  exact ⟨s', _, h1, h2, h4⟩

/-- Tie through the translator: in the *translated* `insert` and `take` (`Stevia.GenA.*`, regenerated from
    `array_set.rs` on every run; `ptr::copy` is `copyWithin`, which fails exactly when a range leaves the values slice,
    and every `self.values[i]` is a checked access) nothing fails on a well-formed set — no raw copy and no index
    leaves the slice — and the slot count is unchanged. -/
theorem translated_copies_stay_inside {key : α → κ} {P : Nat} {s : ASet α} (h : s.Inv key P) (x : α) :
    (∃ s' r, GenA.insert key P s x = some (s', r) ∧ s'.slots = s.slots) ∧
    (∃ s' r, GenA.take key P s x = some (s', r) ∧ s'.slots = s.slots) := by
  obtain ⟨s1, r1, h1, _, _, hs1⟩ := GenA.insert_refines h x
  obtain ⟨s2, r2, h2, _, _, hs2⟩ := GenA.take_refines h x
  exact ⟨⟨s1, r1, h1, hs1⟩, ⟨s2, r2, h2, hs2⟩⟩

/-- Byte level, through the translator: the two parts every handle is built from (translated `from_bytes` /
    `from_bytes_mut` of every collection, all equal to `View.split`) are two adjacent sub-ranges of the caller's buffer —
    the first `H` bytes and the rest — whose sizes add up to the buffer's; a buffer shorter than a header, or whose
    remainder is not a whole number of records, is refused rather than read past its end. -/
theorem translated_views_stay_inside (H R : Nat) (b : ByteArray) :
    (∀ a n, GenV.avl32_from_bytes_mut H R b = some (a, n) ∨ GenV.avl8_from_bytes_mut H R b = some (a, n) ∨
        GenV.hset_from_bytes_mut H R b = some (a, n) ∨ GenV.aset_from_bytes_mut H R b = some (a, n) ∨
        GenV.avl32_from_bytes H R b = some (a, n) ∨ GenV.avl8_from_bytes H R b = some (a, n) ∨
        GenV.hset_from_bytes H R b = some (a, n) ∨ GenV.aset_from_bytes H R b = some (a, n) →
      a = b.extract 0 H ∧ n = b.extract H b.size ∧ a.size + n.size = b.size ∧ castOk R n.size) ∧
    (b.size < H → GenV.aset_from_bytes_mut H R b = none ∧ GenV.avl32_from_bytes_mut H R b = none ∧
      GenV.avl8_from_bytes_mut H R b = none ∧ GenV.hset_from_bytes_mut H R b = none) := by
  refine ⟨?_, ?_⟩
  · intro a n h
    simp only [GenV.avl32_from_bytes_eq, GenV.avl32_from_bytes_mut_eq, GenV.avl8_from_bytes_eq, GenV.avl8_from_bytes_mut_eq,
      GenV.hset_from_bytes_eq, GenV.hset_from_bytes_mut_eq, GenV.aset_from_bytes_eq, GenV.aset_from_bytes_mut_eq, or_self] at h
    obtain ⟨h1, h2, _, h4, h5, _⟩ := View.split_parts h
    exact ⟨h1, h2, h4, h5⟩
  · intro hlt
    have := View.split_of_size_lt (R := R) hlt
    simp [GenV.avl32_from_bytes_mut_eq, GenV.avl8_from_bytes_mut_eq, GenV.hset_from_bytes_mut_eq, GenV.aset_from_bytes_mut_eq, this]

end Stevia.C05
