/-
  C08 — growing the buffer keeps the contents and adds exactly the new slots.
-/
import Stevia.Proofs.ArraySetState
import Stevia.Proofs.GenTreeOpen
import Stevia.Proofs.TreeImpEq

namespace Stevia.C08
variable {α β : Type} [LinOrd α]

/-- Extending the buffer of a reachable tree by `n ≥ 1` zero-filled records and re-opening it
    mutably preserves every entry (same tree, slot for slot), makes the capacity exactly
    `records + n` (for an opened tree: old capacity + n), and yields a reachable state again,
    so the statement applies to repeated growth and to every continuation. -/
theorem grow (c : TreeCfg) (s : Tree α β) (h : Tree.Reach c s) (n : Nat) (hn : 0 < n)
    (hok : s.slots + n ≤ c.W ∧ (c.wrap = true ∨ s.slots + n < c.W)) :
    let s' := (s.extend n).openMut c
    Tree.Reach c s' ∧ s'.root = s.root ∧ s'.size = s.size ∧ s'.cap = s.slots + n := by
  have hi := Tree.reach_inv h
  have hg := Tree.grow_spec hi n (show (TreeOp.extend n : TreeOp α β).ok c s from hok)
  refine ⟨?_, hg.2.1, hg.2.2.1, hg.2.2.2.1 hn⟩
  exact Tree.Reach.step (TreeOp.reopen) (Tree.Reach.step (TreeOp.extend n) h hok rfl) trivial rfl

/-- After growth exactly `n` more entries than before fit: `old free room + n`. -/
theorem grow_then_fill (c : TreeCfg) (s : Tree α β) (h : Tree.Reach c s) (hopen : s.cap = s.slots)
    (n : Nat) (hn : 0 < n)
    (hok : s.slots + n ≤ c.W ∧ (c.wrap = true ∨ s.slots + n < c.W)) (kvs : List (α × β))
    (hnd : (kvs.map (·.1)).Pairwise (fun a b => a < b ∨ b < a))
    (hfresh : ∀ e ∈ kvs, s.root.find e.1 = none)
    (hlen : kvs.length + s.size = s.cap + n) :
    ∃ s', ((s.extend n).openMut c).insertAll c kvs = some s' ∧ s'.size = s'.cap ∧
      ∀ k v, s'.insert c k v = .ok (s', none) := by
  obtain ⟨hr, hroot, hsize, hcap⟩ := grow c s h n hn hok
  have hf := Tree.fill_spec (Tree.reach_inv hr) kvs hnd (by rw [hroot]; exact hfresh)
    (by rw [hsize, hcap, ← hopen]; exact hlen)
  obtain ⟨s', h1, _, h3, _, h5⟩ := hf
  exact ⟨s', h1, h3, h5⟩

/-- A read-only view of the extended buffer shows the same contents with the old capacity. -/
theorem readonly_after_extend (s : Tree α β) (n : Nat) :
    (s.extend n).root = s.root ∧ (s.extend n).capacity = s.capacity ∧ (s.extend n).len = s.len ∧
    ∀ k, (s.extend n).get k = s.get k := by
  refine ⟨rfl, rfl, rfl, fun _ => rfl⟩

/-- Array set: extending the buffer by `n` zero-filled slots keeps the members and gains exactly `n` slots. -/
theorem array_extend {κ : Type} [LinOrd κ] {key : α → κ} {P : Nat} {s : ASet α} (h : s.Inv key P)
    (d : α) (n : Nat) :
    (s.extend d n).Inv key P ∧ (s.extend d n).view = s.view ∧ (s.extend d n).slots = s.slots + n :=
  let r := ASet.extend_spec h d n
  ⟨r.1, r.2.1, r.2.2.1⟩

/-- `avl_tree.rs`: the translated `from_bytes_mut` on the layout of a well-formed state is the layout of the model's
    `openMut` (capacity raised to the number of records, nothing else touched). -/
theorem translated_open_u32 (kd : α) (vd : β) (s : Tree α β) (h : s.Inv cfgU32) :
    Gen32.from_bytes_mut (Imp.dflt kd vd) (s.image cfgU32 kd vd) = (s.openMut cfgU32).image cfgU32 kd vd := by
  rw [Gen32.from_bytes_mut_eq]; exact Imp.openMut_eq cfgU32 kd vd s

/-- `u8_avl_tree.rs`: the translated `from_bytes_mut` on the layout of a well-formed state is the layout of the model's
    `openMut` (capacity raised to the number of records, nothing else touched). -/
theorem translated_open_u8 (kd : α) (vd : β) (s : Tree α β) (h : s.Inv cfgU8) :
    Gen8.from_bytes_mut (Imp.dflt kd vd) (s.image cfgU8 kd vd) = (s.openMut cfgU8).image cfgU8 kd vd := by
  rw [Gen8.from_bytes_mut_eq]; exact Imp.openMut_eq cfgU8 kd vd s

end Stevia.C08
