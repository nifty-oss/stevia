/-
  C14 — pod strings: NUL-padded fixed buffer that round-trips every fitting string.
-/
import Stevia.Proofs.GenStr

namespace Stevia.C14

/-- A pod string built from `s` (by conversion, or by copying over any previous content — the result
    is a function of `s` alone) has exactly `N` bytes: the first `min(len(s), N)` bytes of `s`, then zeros. -/
theorem from_spec (N : Nat) (s : String) :
    (PodStr.ofStr N s).size = N ∧
    ∀ i, i < N → (PodStr.ofStr N s).toList[i]? =
      some (if h : i < s.toByteArray.size then s.toByteArray[i] else 0) :=
  ⟨PodStr.ofBytes_size N _, fun i hi => PodStr.ofBytes_get N _ i hi⟩

/-- `as_str()` returns `s` itself whenever `s` fits and contains no NUL (`N = 0` and exact fit included). -/
theorem roundtrip (N : Nat) (s : String) (hfit : s.utf8ByteSize ≤ N) (hnul : ∀ c ∈ s.toList, c ≠ Char.ofNat 0) :
    PodStr.asStr (PodStr.ofStr N s) = some s.toByteArray := PodStr.asStr_roundtrip N s hfit hnul

/-- `as_str()` is total over arbitrary bytes: the text up to the first NUL, or an error iff that is not UTF-8. -/
theorem as_str_total (v : ByteArray) :
    (PodStr.asStr v = some (PodStr.text v) ∧ (PodStr.text v).IsValidUTF8) ∨
    (PodStr.asStr v = none ∧ ¬ (PodStr.text v).IsValidUTF8) := PodStr.asStr_spec v

/-- The text is everything before the first NUL (it contains none, and is followed by one or by the end). -/
theorem text_is_before_first_nul (v : ByteArray) :
    PodStr.endIndex v ≤ v.size ∧ (∀ i, i < PodStr.endIndex v → v.toList[i]? ≠ some 0) ∧
    (PodStr.endIndex v < v.size → v.toList[PodStr.endIndex v]? = some 0) := PodStr.text_spec v

/-- `Display` renders that same text rather than the padding. -/
theorem display_is_text (v t : ByteArray) (h : PodStr.asStr v = some t) : PodStr.display v = some t :=
  PodStr.display_eq v t h

/-- Loading from the value's own bytes yields an equal value. -/
theorem load_own_bytes (N : Nat) (v : ByteArray) (hv : v.size = N) : Pod.load N v = .ok v := by
  rcases Pod.load_spec N v with ⟨h1, _⟩ | ⟨_, h2, _⟩
  · omega
  · rw [h2, ← hv, ByteArray.extract_zero_size]

/-- Tie through the translator (`Stevia.GenS.*`, regenerated from `pod_str.rs` on every run): the translated
    `From<&str>`, `copy_from_slice`, `copy_from_str` and `as_str` are the model's `ofStr` / `ofBytes` / `asStr` (they
    never panic on a value of `N` bytes). -/
theorem translated_pod_str_is_the_model (W P N : Nat) (v src : ByteArray) (hv : v.size = N) (s : String) :
    GenS.from_str W P N s = some (PodStr.ofStr N s) ∧
    GenS.copy_from_slice W P N v src = some (PodStr.ofBytes N src) ∧
    GenS.copy_from_str W P N v s = some (PodStr.ofStr N s) ∧
    GenS.as_str W P N v = some (PodStr.asStr v) :=
  ⟨GenS.from_str_eq W P N s, GenS.copy_from_slice_eq W P N v hv src, GenS.copy_from_str_eq W P N v hv s,
   GenS.as_str_eq W P N v hv⟩

/-- `Display` through the translator: the translated `fmt` hands the formatter `from_utf8_lossy(text)` in one piece,
    never fails on a value of `N` bytes, and — `from_utf8_lossy` being the identity on valid UTF-8, the one assumption about
    the standard library, stated as the hypothesis `hl` — renders exactly what `as_str()` returns whenever that is `Ok`:
    the text, not the NUL padding. -/
theorem translated_display_is_text (W P N : Nat) (lossy : ByteArray → ByteArray)
    (hl : ∀ b : ByteArray, b.validateUTF8 = true → lossy b = b) (v : ByteArray) (hv : v.size = N) :
    GenS.fmt W P N lossy v = some (lossy (PodStr.text v)) ∧
    (∀ t, PodStr.asStr v = some t → GenS.fmt W P N lossy v = some t) := by
  refine ⟨GenS.fmt_eq W P N lossy v hv, ?_⟩
  intro t ht
  rw [GenS.fmt_eq W P N lossy v hv]
  unfold PodStr.asStr at ht
  split at ht
  · rename_i hval
    cases ht
    rw [hl _ hval]
  · cases ht

end Stevia.C14
