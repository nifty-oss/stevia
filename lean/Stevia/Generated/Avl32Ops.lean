/-
  GENERATED by tools/rust2lean.py from src/collections/avl_tree.rs (group Ops) — do not edit.
  A syntax-directed transliteration of the Rust functions into Lean `do` notation (see the translator's
  docstring for the conventions). `Stevia/Proofs/GenTreeOps.lean` proves each definition equal to the literal
  model `Stevia.Imp.*`.
-/
import Stevia.Model.TreeImp
import Stevia.Model.Fuel
import Stevia.Generated.Avl32Bal
import Stevia.Generated.Avl32Alloc
import Stevia.Generated.Avl32Query

namespace Stevia
namespace Gen32
open Imp
variable {α β : Type} [LinOrd α]
set_option linter.unusedVariables false

/-- `insert` (line 234). -/
def insert (d : Rec α β) (m0 : TreeImage α β) (key : α) (value : β) :
    Option (TreeImage α β × (Option Nat)) := do
  let mut m := m0
  let fuel := m0.recs.length + 1
  let mut reference_node := m.hdr.root
  if reference_node = 0 then
    if is_full d m then
      return (m, none)
    let __t1 ← add d m key value
    m := __t1.1
    let root := __t1.2
    m := { m with hdr := { m.hdr with root := root } }
    return (m, some root)
  let mut path : List Ancestor := []
  path := path ++ [(none, none, reference_node)]
  let mut __exit1 := false
  for _ in Fuel.mk fuel do
    let current_key := (rd d m reference_node).key
    let parent := reference_node
    let mut branch : Bool := default
    if key < current_key then
      reference_node := (rd d m parent).left
      branch := false
    else
      if current_key < key then
        reference_node := (rd d m parent).right
        branch := true
      else
        return (m, none)
    if reference_node = 0 then
      if is_full d m then
        return (m, none)
      let __t2 ← add d m key value
      m := __t2.1
      reference_node := __t2.2
      m := update_child d m parent branch reference_node
      __exit1 := true
      break
    else
      path := path ++ [(some parent, some branch, reference_node)]
  if ¬ __exit1 then failure
  m := rebalance d m path
  return (m, some reference_node)

/-- `remove` (line 284). -/
def remove (d : Rec α β) (m0 : TreeImage α β) (key : α) :
    Option (TreeImage α β × (Option β)) := do
  let mut m := m0
  let fuel := m0.recs.length + 1
  let mut node_index := m.hdr.root
  if node_index = 0 then
    return (m, none)
  let mut path : List Ancestor := []
  path := path ++ [(none, none, node_index)]
  let mut __exit1 := false
  for _ in Fuel.mk fuel do
    if ¬ (node_index ≠ 0) then
      __exit1 := true
      break
    let current_key := (rd d m node_index).key
    let parent := node_index
    let mut branch : Bool := default
    if key < current_key then
      node_index := (rd d m parent).left
      branch := false
    else
      if current_key < key then
        node_index := (rd d m parent).right
        branch := true
      else
        __exit1 := true
        break
    path := path ++ [(some parent, some branch, node_index)]
  if ¬ __exit1 then failure
  if node_index = 0 then
    return (m, none)
  let left := (rd d m node_index).left
  let right := (rd d m node_index).right
  let mut replacement : Nat := default
  if (left ≠ 0) ∧ (right ≠ 0) then
    let mut leftmost := right
    let mut leftmost_parent := 0
    let mut inner_path : List Ancestor := []
    let mut __exit2 := false
    for _ in Fuel.mk fuel do
      if ¬ (((rd d m leftmost).left) ≠ 0) then
        __exit2 := true
        break
      leftmost_parent := leftmost
      leftmost := (rd d m leftmost).left
      inner_path := inner_path ++ [(some leftmost_parent, some false, leftmost)]
    if ¬ __exit2 then failure
    if leftmost_parent ≠ 0 then
      m := update_child d m leftmost_parent false ((rd d m leftmost).right)
    m := update_child d m leftmost false left
    if right ≠ leftmost then
      m := update_child d m leftmost true right
    let __t1 := path.getLast?
    path := path.dropLast
    let (parent, branch, _) := __t1.getD default
    match parent with
    | some parent =>
      m := update_child d m parent (branch.getD default) leftmost
    | _ =>
      pure ()
    path := path ++ [(parent, branch, leftmost)]
    if right ≠ leftmost then
      path := path ++ [(some leftmost, some true, right)]
    if ¬ inner_path.isEmpty then
      inner_path := inner_path.dropLast
    path := path ++ inner_path
    replacement := leftmost
  else
    let child := if (left = 0) ∧ (right = 0) then 0 else if left ≠ 0 then left else right
    let __t2 := path.getLast?
    path := path.dropLast
    let (parent, branch, _) := __t2.getD default
    match parent with
    | some parent =>
      m := update_child d m parent (branch.getD default) child
      if child ≠ 0 then
        path := path ++ [(some parent, branch, child)]
    | _ =>
      pure ()
    replacement := child
  if node_index = m.hdr.root then
    m := { m with hdr := { m.hdr with root := replacement } }
  m := rebalance d m path
  let __t3 := remove_node d m node_index
  m := __t3.1
  return (m, __t3.2)

end Gen32
end Stevia
