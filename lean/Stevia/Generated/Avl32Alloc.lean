/-
  GENERATED by tools/rust2lean.py from src/collections/avl_tree.rs (group Alloc) — do not edit.
  A syntax-directed transliteration of the Rust functions into Lean `do` notation (see the translator's
  docstring for the conventions). `Stevia/Proofs/GenTreeAlloc.lean` proves each definition equal to the literal
  model `Stevia.Imp.*`.
-/
import Stevia.Model.TreeImp
import Stevia.Model.Fuel

namespace Stevia
namespace Gen32
open Imp
variable {α β : Type} [LinOrd α]
set_option linter.unusedVariables false

/-- `Allocator::initialize` (line 640): header words in the declaration order of `enum Field`. -/
def alloc_initialize (m0 : TreeImage α β) (capacity : Nat) : TreeImage α β :=
  { m0 with hdr := { root := 0, size := 0, cap := capacity, flh := 1, seq := 1, pad := 0 } }

/-- `Node::initialize` (line 690). -/
def node_initialize (_r : Rec α β) (key : α) (value : β) : Rec α β :=
  { left := 0, right := 0, height := 0, pad := 0, key := key, val := value }

/-- `initialize` (line 211). -/
def initialize_tree (d : Rec α β) (m0 : TreeImage α β) (capacity_v : Nat) :
    TreeImage α β := Id.run do
  let mut m := m0
  m := alloc_initialize m capacity_v
  return m

/-- `add` (line 401). -/
def add (d : Rec α β) (m0 : TreeImage α β) (key : α) (value : β) :
    Option (TreeImage α β × Nat) := do
  let mut m := m0
  let free_node := m.hdr.flh
  let sequence := m.hdr.seq
  if free_node = sequence then
    if (sequence - 1) = m.hdr.cap then
      failure
    m := { m with hdr := { m.hdr with seq := sequence + 1 } }
    m := { m with hdr := { m.hdr with flh := sequence + 1 } }
  else
    m := { m with hdr := { m.hdr with flh := (rd d m free_node).height } }
  m := wr m free_node fun r => { r with key := key }
  m := wr m free_node fun r => { r with val := value }
  m := wr m free_node fun r => { r with height := 0 }
  m := { m with hdr := { m.hdr with size := m.hdr.size + 1 } }
  return (m, free_node)

/-- `remove_node` (line 596). -/
def remove_node (d : Rec α β) (m0 : TreeImage α β) (index : Nat) :
    TreeImage α β × (Option β) := Id.run do
  let mut m := m0
  if index = 0 then
    return (m, none)
  let value := (rd d m index).val
  m := wr m index fun r => node_initialize r d.key d.val
  let free_list_head := m.hdr.flh
  m := wr m index fun r => { r with height := free_list_head }
  m := { m with hdr := { m.hdr with flh := index } }
  m := { m with hdr := { m.hdr with size := m.hdr.size - 1 } }
  return (m, some value)

end Gen32
end Stevia
