/-
  GENERATED by tools/rust2lean.py from src/collections/avl_tree.rs (group Open) — do not edit.
  A syntax-directed transliteration of the Rust functions into Lean `do` notation (see the translator's
  docstring for the conventions). `Stevia/Proofs/GenTreeOpen.lean` proves each definition equal to the literal
  model `Stevia.Imp.*`.
-/
import Stevia.Model.TreeImp
import Stevia.Model.Fuel

namespace Stevia
namespace Gen32
open Imp
variable {α β : Type} [LinOrd α]
set_option linter.unusedVariables false

/-- `from_bytes_mut` (line 188). -/
def from_bytes_mut (d : Rec α β) (m0 : TreeImage α β) :
    TreeImage α β := Id.run do
  let mut m := m0
  let current := m.hdr.cap
  if current < m.recs.length then
    m := { m with hdr := { m.hdr with cap := m.recs.length % 4294967296 } }
  return m

end Gen32
end Stevia
