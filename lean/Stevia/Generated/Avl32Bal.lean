/-
  GENERATED by tools/rust2lean.py from src/collections/avl_tree.rs (group Bal) — do not edit.
  A syntax-directed transliteration of the Rust functions into Lean `do` notation (see the translator's
  docstring for the conventions). `Stevia/Proofs/GenTreeBal.lean` proves each definition equal to the literal
  model `Stevia.Imp.*`.
-/
import Stevia.Model.TreeImp
import Stevia.Model.Fuel

namespace Stevia
namespace Gen32
open Imp
variable {α β : Type} [LinOrd α]
set_option linter.unusedVariables false

/-- `update_height` (line 571). -/
def update_height (d : Rec α β) (m0 : TreeImage α β) (index : Nat) :
    TreeImage α β := Id.run do
  let mut m := m0
  let left := (rd d m index).left
  let right := (rd d m index).right
  let mut height : Nat := default
  if (left = 0) ∧ (right = 0) then
    height := 0
  else
    let left_height := if left ≠ 0 then (rd d m left).height else 0
    let right_height := if right ≠ 0 then (rd d m right).height else 0
    height := (max left_height right_height) + 1
  m := wr m index fun r => { r with height := height }
  return m

/-- `update_child` (line 554). -/
def update_child (d : Rec α β) (m0 : TreeImage α β) (parent : Nat) (branch : Bool) (child : Nat) :
    TreeImage α β := Id.run do
  let mut m := m0
  match branch with
  | false =>
    m := wr m parent fun r => { r with left := child }
  | true =>
    m := wr m parent fun r => { r with right := child }
  m := update_height d m parent
  return m

/-- `balance_factor` (line 496). -/
def balance_factor (d : Rec α β) (m : TreeImage α β) (left : Nat) (right : Nat) :
    Int := Id.run do
  let left_height := if left ≠ 0 then (((rd d m left).height : Nat) : Int) + 1 else 0
  let right_height := if right ≠ 0 then (((rd d m right).height : Nat) : Int) + 1 else 0
  return left_height - right_height

/-- `left_rotate` (line 517). -/
def left_rotate (d : Rec α β) (m0 : TreeImage α β) (index : Nat) :
    TreeImage α β × Nat := Id.run do
  let mut m := m0
  let right := (rd d m index).right
  let right_left := (rd d m right).left
  m := update_child d m index true right_left
  m := update_child d m right false index
  return (m, right)

/-- `right_rotate` (line 532). -/
def right_rotate (d : Rec α β) (m0 : TreeImage α β) (index : Nat) :
    TreeImage α β × Nat := Id.run do
  let mut m := m0
  let left := (rd d m index).left
  let left_right := (rd d m left).right
  m := update_child d m index false left_right
  m := update_child d m left true index
  return (m, left)

/-- `rebalance` (line 444). -/
def rebalance (d : Rec α β) (m0 : TreeImage α β) (path : List Ancestor) :
    TreeImage α β := Id.run do
  let mut m := m0
  for (parent, branch, child) in (path).reverse do
    let left := (rd d m child).left
    let right := (rd d m child).right
    let balance_factor_v := balance_factor d m left right
    let mut index : Option Nat := default
    if 1 < balance_factor_v then
      let left_left := (rd d m left).left
      let left_right := (rd d m left).right
      let left_balance_factor := balance_factor d m left_left left_right
      if left_balance_factor < 0 then
        let __t1 := left_rotate d m left
        m := __t1.1
        let index_1 := __t1.2
        m := update_child d m child false index_1
      let __t2 := right_rotate d m child
      m := __t2.1
      index := some __t2.2
    else
      if balance_factor_v < (-1) then
        let right_left := (rd d m right).left
        let right_right := (rd d m right).right
        let right_balance_factor := balance_factor d m right_left right_right
        if 0 < right_balance_factor then
          let __t3 := right_rotate d m right
          m := __t3.1
          let index_1 := __t3.2
          m := update_child d m child true index_1
        let __t4 := left_rotate d m child
        m := __t4.1
        index := some __t4.2
      else
        m := update_height d m child
        index := none
    match index with
    | some index_1 =>
      match parent with
      | some parent =>
        m := update_child d m parent (branch.getD default) index_1
      | _ =>
        m := { m with hdr := { m.hdr with root := index_1 } }
        m := update_height d m index_1
    | _ =>
      pure ()
  return m

end Gen32
end Stevia
