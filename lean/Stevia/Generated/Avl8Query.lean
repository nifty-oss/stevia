/-
  GENERATED by tools/rust2lean.py from src/collections/u8_avl_tree.rs (group Query) — do not edit.
  A syntax-directed transliteration of the Rust functions into Lean `do` notation (see the translator's
  docstring for the conventions). `Stevia/Proofs/GenTreeQuery.lean` proves each definition equal to the literal
  model `Stevia.Imp.*`.
-/
import Stevia.Model.TreeImp
import Stevia.Model.Fuel

namespace Stevia
namespace Gen8
open Imp
variable {α β : Type} [LinOrd α]
set_option linter.unusedVariables false

/-- `capacity` (line 51). -/
def capacity (d : Rec α β) (m : TreeImage α β) :
    Nat := Id.run do
  return m.hdr.cap

/-- `len` (line 56). -/
def len (d : Rec α β) (m : TreeImage α β) :
    Nat := Id.run do
  return m.hdr.size

/-- `is_full` (line 61). -/
def is_full (d : Rec α β) (m : TreeImage α β) :
    Bool := Id.run do
  return decide (m.hdr.size ≥ m.hdr.cap)

/-- `is_empty` (line 66). -/
def is_empty (d : Rec α β) (m : TreeImage α β) :
    Bool := Id.run do
  return decide (m.hdr.size = 0)

/-- `find` (line 104). -/
def find (d : Rec α β) (m : TreeImage α β) (key : α) :
    Option (Option Nat) := do
  let fuel := m.recs.length + 1
  let mut reference_node := m.hdr.root
  let mut __exit1 := false
  for _ in Fuel.mk fuel do
    if ¬ (reference_node ≠ 0) then
      __exit1 := true
      break
    let current := (rd d m reference_node).key
    let mut target : Nat := default
    if key < current then
      target := (rd d m reference_node).left
    else
      if current < key then
        target := (rd d m reference_node).right
      else
        return some reference_node
    reference_node := target
  if ¬ __exit1 then failure
  return none

/-- `get` (line 75). -/
def get (d : Rec α β) (m : TreeImage α β) (key : α) :
    Option (Option β) := do
  let __t1 ← find d m key
  return __t1.map (fun node_index => (rd d m node_index).val)

/-- `contains` (line 100). -/
def contains (d : Rec α β) (m : TreeImage α β) (key : α) :
    Option (Bool) := do
  let __t1 ← find d m key
  return __t1.isSome

/-- `lowest` (line 81). -/
def lowest (d : Rec α β) (m : TreeImage α β) :
    Option (Option α) := do
  let fuel := m.recs.length + 1
  let mut node := m.hdr.root
  if node = 0 then
    return none
  let mut __exit1 := false
  for _ in Fuel.mk fuel do
    if ¬ (((rd d m node).left) ≠ 0) then
      __exit1 := true
      break
    node := (rd d m node).left
  if ¬ __exit1 then failure
  return some ((rd d m node).key)

/-- `get_mut` (line 221). -/
def get_mut (d : Rec α β) (m0 : TreeImage α β) (key : α) :
    Option (TreeImage α β × (Option Nat)) := do
  let mut m := m0
  let __t1 ← find d m key
  return (m, __t1.map (fun node_index => node_index))

end Gen8
end Stevia
