/-
  Stevia.Proofs.GenTreeAlloc — translated tree source = literal model (see `GenTreeBal`): `add` and `remove_node` of the slot
  allocator (`initialize_tree`, translated with them, is bridged in `GenTreeStep`).
-/
import Stevia.Generated.Avl32Alloc
import Stevia.Generated.Avl8Alloc
import Stevia.Proofs.GenLemmas
import Stevia.Proofs.TreeImpPhases

namespace Stevia
open Imp
variable {α β : Type}
set_option linter.unusedSimpArgs false -- as in `GenTreeBal`

namespace Gen32

theorem add_eq (d : Rec α β) (m : TreeImage α β) (key : α) (value : β) :
    add d m key value = Imp.add cfgU32 d m key value := by
  simp only [add, Imp.add, cfgU32, Nat.reduceAdd, Nat.reduceSub, Bool.false_eq_true, if_false, if_true]
  -- (either side of the two equality tests may be written first)
  by_cases h1 : m.hdr.flh = m.hdr.seq
  · simp only [h1, if_true, eq_self]
    split
    · first
      | rfl
      | (rename_i h2; rw [if_pos h2.symm]; rfl)
    · first
      | (simp only [bind, Option.bind, pure, wr_wr]; rfl)
      | (rename_i h2
         rw [if_neg (fun h => h2 (Eq.symm h))]
         simp only [bind, Option.bind, pure, wr_wr]; rfl)
  · have h1' : ¬ m.hdr.seq = m.hdr.flh := fun h => h1 h.symm
    simp only [h1, h1', bind, Option.bind, pure, if_false, wr_wr]
    rfl

theorem remove_node_eq (d : Rec α β) (m : TreeImage α β) (i : Nat) :
    remove_node d m i = if i = 0 then (m, none) else ((Imp.removeNode d m i).1, some (Imp.removeNode d m i).2) := by
  simp only [remove_node, Imp.removeNode, node_initialize, Id.run, bind, pure, wr_wr, wr_hdr]
  split <;> rfl

theorem remove_node_fun : @remove_node α β =
    fun d m i => if i = 0 then (m, none) else ((Imp.removeNode d m i).1, some (Imp.removeNode d m i).2) := by
  funext d m i; exact remove_node_eq d m i

end Gen32

namespace Gen8

theorem add_eq (d : Rec α β) (m : TreeImage α β) (key : α) (value : β) :
    add d m key value = Imp.add cfgU8 d m key value := by
  simp only [add, Imp.add, cfgU8, Nat.reduceAdd, Nat.reduceSub, Bool.false_eq_true, if_false, if_true]
  by_cases h1 : m.hdr.flh = m.hdr.seq
  · simp only [h1, if_true, eq_self]
    split
    · first
      | rfl
      | (rename_i h2; rw [if_pos h2.symm]; rfl)
    · first
      | (simp only [bind, Option.bind, pure, wr_wr]; rfl)
      | (rename_i h2
         rw [if_neg (fun h => h2 (Eq.symm h))]
         simp only [bind, Option.bind, pure, wr_wr]; rfl)
  · have h1' : ¬ m.hdr.seq = m.hdr.flh := fun h => h1 h.symm
    simp only [h1, h1', bind, Option.bind, pure, if_false, wr_wr]
    rfl

theorem remove_node_eq (d : Rec α β) (m : TreeImage α β) (i : Nat) :
    remove_node d m i = if i = 0 then (m, none) else ((Imp.removeNode d m i).1, some (Imp.removeNode d m i).2) := by
  simp only [remove_node, Imp.removeNode, node_initialize, Id.run, bind, pure, wr_wr, wr_hdr]
  split <;> rfl

theorem remove_node_fun : @remove_node α β =
    fun d m i => if i = 0 then (m, none) else ((Imp.removeNode d m i).1, some (Imp.removeNode d m i).2) := by
  funext d m i; exact remove_node_eq d m i

end Gen8

end Stevia
