/-
  Stevia.Proofs.GenHSetIter — the translated iterator of the read-only hash-set view (`HashSetIterator::next`,
  `Stevia.GenH.next`), called until it answers `None`, yields the model's `iter` (`GenH.collect_eq`).  `next` is a loop
  that skips empty buckets (closed form `GenH.skipSt`) followed by one read.  Inside a chain the loop does not move and
  the reads go along the decoder's walk (`next_walk`); at the end of a chain the loop stops at the head of the next
  non-empty bucket or runs past the last bucket (`skip_spec`).
-/
import Stevia.Generated.HSet
import Stevia.Proofs.GenLemmas
import Stevia.Proofs.HashSetImpEq

namespace Stevia

theorem drop_take_flatMap {α : Type} (l : List (List α)) {n b : Nat} (hn : n ≤ l.length) (hb : b < n) :
    ((l.take n).drop b).flatMap id = l.getD b [] ++ ((l.take n).drop (b + 1)).flatMap id := by
  have hlt : b < l.length := Nat.lt_of_lt_of_le hb hn
  rw [List.drop_eq_getElem_cons (by rw [List.length_take]; exact Nat.lt_min.2 ⟨hb, hlt⟩), List.flatMap_cons,
    List.getElem_take, List.getD_eq_getElem?_getD, List.getElem?_eq_getElem hlt]
  rfl

variable {β : Type}

open HImp

/-- The items `next` hands out in at most `n` calls, starting from the iterator state `(bucket, node)`; `none` if a
    call of `next` fails (its bucket-skipping loop ran out of fuel). -/
def GenH.collect (hash : β → Nat) (d : HRec β) (m : HImage β) : Nat → Nat → Nat → Option (List β)
  | 0, _, _ => some []
  | n + 1, b, nd =>
    match GenH.next hash d m b nd with
    | none => none
    | some (none, _, _) => some []
    | some (some v, b', nd') => (GenH.collect hash d m n b' nd').map (v :: ·)

/-- The state `(early result, bucket, node, left by its condition)` of the skip loop of `next` after `n`
    iterations. -/
def GenH.skipSt (d : HRec β) (m : HImage β) (cap : Nat) :
    Nat → Option (Option β × Nat × Nat) × Nat × Nat × Bool → Option (Option β × Nat × Nat) × Nat × Nat × Bool
  | 0, s => s
  | n + 1, (_, b, nd, ex) =>
    if ¬ nd = 0 then (none, b, nd, true)
    else if cap < b + 1 then (some (none, b + 1, nd), b + 1, nd, ex)
    else skipSt d m cap n (none, b + 1, (rd d m (b + 1)).bucket, ex)

section
variable [DecidableEq β]
-- `GenH.capacity_eq` of GenHSet, which this file does not import. `next_eq` below takes the same fact as a hypothesis
-- instead: `simp only` with a lemma that holds by `rfl` rewrites the condition of an `if` without its `Decidable` instance.
set_option linter.unusedSectionVars false in
theorem GenH.capacity_eq' (hash : β → Nat) (d : HRec β) (m : HImage β) :
    GenH.capacity hash d m = m.hdr.cap := rfl
end

-- Some simp arguments below serve only one of the shapes the source may have (see the comment in the proof).
set_option linter.unusedSimpArgs false in
theorem GenH.next_eq (hash : β → Nat) (d : HRec β) (m : HImage β) (b nd : Nat) :
    GenH.next hash d m b nd =
      if b ≤ m.hdr.cap % 4294967296 then
        match GenH.skipSt d m (m.hdr.cap % 4294967296) (m.recs.length + 1) (none, b, nd, false) with
        | (some r, _, _, _) => some r
        | (none, b', nd', ex) => if ex = true then some (some (rd d m nd').val, b', (rd d m nd').next) else none
      else some (none, b, nd) := by
  unfold GenH.next
  have hcap : GenH.capacity hash d m = m.hdr.cap := rfl
  simp only [forIn, hcap]
  by_cases hb : b ≤ m.hdr.cap % 4294967296
  · -- (the source may test `bucket <= capacity` or return early on `capacity < bucket`)
    simp only [hb, Nat.not_lt.mpr hb, if_true, if_false]
    refine (Option.bind_eq_of_eq_some (Fuel.forIn_eq_of_opt _ (GenH.skipSt d m (m.hdr.cap % 4294967296))
      (fun _ => rfl) ?_ (m.recs.length + 1) (none, b, nd, false)) _).trans ?_
    · intro n ⟨r, b', nd', ex⟩
      simp only [GenH.skipSt]
      obtain ⟨_, e⟩ | ⟨_, e⟩ := Decidable.verdict (nd' = 0) <;> rw [e]
      · obtain ⟨_, e⟩ | ⟨_, e⟩ := Decidable.verdict (m.hdr.cap % 4294967296 < b' + 1) <;> rw [e] <;> rfl
      · rfl
    · generalize GenH.skipSt d m (m.hdr.cap % 4294967296) (m.recs.length + 1) (none, b, nd, false) = r
      rcases r with ⟨_ | ret, b', nd', _ | _⟩ <;> rfl
  · simp only [hb, Nat.lt_of_not_le hb, if_false, if_true]; rfl

/-- Inside a chain (`node ≠ SENTINEL`) the skip loop leaves at once. -/
theorem GenH.skipSt_in_chain {d : HRec β} {m : HImage β} {cap n b nd : Nat} {ex : Bool} (h : nd ≠ 0) :
    GenH.skipSt d m cap (n + 1) (none, b, nd, ex) = (none, b, nd, true) := by
  simp only [GenH.skipSt, h, not_false_eq_true, if_true]

/-- The skip loop from `(none, b, 0, false)` — no early result, bucket `b`, node `SENTINEL`, not yet left: either all
    buckets from `b` on are empty and it returns past the last one, or it leaves at the head of the first non-empty one.
    `k` is only the induction measure, `b + k = cap`; the fuel is `f + 1`. -/
theorem GenH.skip_spec (vd : β) (s : HSet β) (hok : s.LayoutOk) (hcl : s.cap ≤ s.slots) :
    ∀ (k b f : Nat), b + k = s.cap → k ≤ f →
      (((s.chains.take s.cap).drop b).flatMap id = [] ∧
        GenH.skipSt (HImp.dflt vd) (s.image vd) s.cap (f + 1) (none, b, 0, false) =
          (some (none, s.cap + 1, 0), s.cap + 1, 0, false)) ∨
      (∃ b' e rest, b' ≤ s.cap ∧ e :: rest ∈ s.chains ∧
        ((s.chains.take s.cap).drop b).flatMap id = (e :: rest) ++ ((s.chains.take s.cap).drop b').flatMap id ∧
        GenH.skipSt (HImp.dflt vd) (s.image vd) s.cap (f + 1) (none, b, 0, false) = (none, b', e.1, true)) := by
  intro k
  induction k with
  | zero =>
    intro b f hb _
    have hb' : b = s.cap := hb
    refine .inl ⟨?_, ?_⟩
    · rw [List.drop_eq_nil_of_le (Nat.le_trans (List.length_take_le _ _) (Nat.le_of_eq hb'.symm))]
      rfl
    · simp only [GenH.skipSt, not_true_eq_false, if_false]
      rw [hb', if_pos (Nat.lt_succ_self _)]
  | succ k ih =>
    intro b f hb hf
    rcases f with _ | f
    · exact absurd hf (Nat.not_succ_le_zero k)
    have hblt : b < s.cap := hb ▸ Nat.lt_add_of_pos_right (Nat.succ_pos k)
    have hlt : b < s.chains.length := Nat.lt_of_lt_of_le hblt hcl
    have hch : s.chains[b]? = some (s.chains.getD b []) := by
      rw [List.getD_eq_getElem?_getD, List.getElem?_eq_getElem hlt]; rfl
    -- one iteration: on to bucket `b + 1`, whose head register is the head of chain `b`
    have hstep : GenH.skipSt (HImp.dflt vd) (s.image vd) s.cap (f + 1 + 1) (none, b, 0, false) =
        GenH.skipSt (HImp.dflt vd) (s.image vd) s.cap (f + 1) (none, b + 1, HSet.headOf (s.chains.getD b []), false) := by
      rw [GenH.skipSt]
      simp only [not_true_eq_false, if_false]
      rw [if_neg (Nat.not_lt.2 hblt), HImp.rd_image vd s hlt, HSet.recAt_bucket]
    rw [hstep, drop_take_flatMap s.chains hcl hblt]
    cases hc : s.chains.getD b [] with
    | nil => exact ih (b + 1) f (by rw [Nat.add_assoc, Nat.add_comm 1 k]; exact hb) (Nat.le_of_succ_le_succ hf)
    | cons e rest =>
      have hm : e :: rest ∈ s.chains := List.mem_of_getElem? (hc ▸ hch)
      exact .inr ⟨b + 1, e, rest, hblt, hm, rfl,
        GenH.skipSt_in_chain (HImp.rd_live vd hok (pre := []) hm).1⟩

theorem GenH.next_walk (hash : β → Nat) (d : HRec β) (m : HImage β) {f nd : Nat} {e : Nat × β}
    {rest : List (Nat × β)} (hw : m.walkChain f nd = some (e :: rest)) {b : Nat} (hb : b ≤ m.hdr.cap % 4294967296) :
    ∃ f', GenH.next hash d m b nd = some (some e.2, b, HSet.headOf rest) ∧
      m.walkChain f' (HSet.headOf rest) = some rest := by
  obtain ⟨f', j, rc, rfl, rfl, hrc, rfl, hw'⟩ := HImage.walkChain_cons hw
  have hn := HImage.walkChain_head hw'
  refine ⟨f', ?_, hn ▸ hw'⟩
  rw [GenH.next_eq, if_pos hb, GenH.skipSt_in_chain (Nat.succ_ne_zero j)]
  simp only [rd_of_getElem? d hrc, if_true, hn]

/-- `b` is 1-based: the buckets after `b` are the records `b, b + 1, …, cap - 1`. -/
theorem GenH.collect_spec (hash : β → Nat) (vd : β) (s : HSet β) (h : s.Inv hash) :
    ∀ (n b f nd : Nat) (rest : List (Nat × β)), b ≤ s.cap → (s.image vd).walkChain f nd = some rest →
      (rest ++ ((s.chains.take s.cap).drop b).flatMap id).length < n →
      GenH.collect hash (HImp.dflt vd) (s.image vd) n b nd =
        some ((rest ++ ((s.chains.take s.cap).drop b).flatMap id).map (·.2)) := by
  have hok := h.layoutOk
  have hcl := h.cap_le
  have hcap : (s.image vd).hdr.cap % 4294967296 = s.cap :=
    Nat.mod_eq_of_lt (Nat.lt_of_le_of_lt h.cap_le (Nat.lt_trans h.slots_lt (by decide)))
  intro n
  induction n with
  | zero => intro b f nd rest _ _ hl; exact absurd hl (Nat.not_lt_zero _)
  | succ n ih =>
    intro b f nd rest hb hw hl
    unfold GenH.collect
    cases rest with
    | cons e rest =>
      obtain ⟨f', hn, hw'⟩ := GenH.next_walk hash (HImp.dflt vd) _ hw (hcap.symm ▸ hb)
      rw [hn]
      simp only [List.cons_append, List.map_cons]
      rw [ih b f' _ rest hb hw' (Nat.lt_of_succ_lt_succ hl)]
      rfl
    | nil =>
      rw [HImage.walkChain_nil hw, GenH.next_eq, hcap, if_pos hb, HSet.image_recs_length]
      rcases GenH.skip_spec vd s hok hcl (s.cap - b) b s.slots (Nat.add_sub_cancel' hb)
          (Nat.le_trans (Nat.sub_le _ _) hcl) with
        ⟨h1, h2⟩ | ⟨b', e, rest, h1, h2, h3, h4⟩
      · rw [h2, h1]; rfl
      · rw [h4]
        obtain ⟨_, hrd⟩ := HImp.rd_live vd hok (pre := []) h2
        simp only [hrd, if_true]
        rw [ih b' _ _ rest h1 (HSet.walkChain_image vd s hok rest [e] h2 _ (Nat.le_refl _))
          (Nat.lt_of_succ_lt_succ (by rw [List.nil_append, h3] at hl; exact hl))]
        rw [List.nil_append, h3]; rfl

/-- From the initial iterator state `bucket = node = SENTINEL`, in `s.size + 1` calls: the last one answers `None`. -/
theorem GenH.collect_eq (hash : β → Nat) (vd : β) (s : HSet β) (h : s.Inv hash) :
    GenH.collect hash (HImp.dflt vd) (s.image vd) (s.size + 1) 0 0 = some s.iter := by
  have hl : (((s.chains.take s.cap).drop 0).flatMap id).length < s.size + 1 := by
    rw [List.drop_zero, h.flatMap_take, h.size_eq, HSet.liveSlots, List.length_map]
    exact Nat.lt_succ_self _
  rw [GenH.collect_spec hash vd s h (s.size + 1) 0 0 0 [] (Nat.zero_le _) (HImage.walkChain_zero _ 0) hl]
  rfl

end Stevia
