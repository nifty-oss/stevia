/-
  Stevia.Proofs.GenTreeRefine — end of the chain for the tree files, once for both: the bridges composed with
  `Imp.*_eq` (TreeImpEq, TreeImpRemove) and with termination on layouts (TreeImpTerm).  The bridge equations of a file
  are the fields of `GenTree.Bridges`, a proposition over the translated functions; each theorem takes it as its one
  hypothesis, and given `Gen32.bridges` or `Gen8.bridges` it speaks of that file's functions by name.
-/
import Stevia.Proofs.TreeImpTerm
import Stevia.Proofs.GenTreeOps
import Stevia.Proofs.GenTreeOpen

namespace Stevia
variable {α β : Type} [LinOrd α]

namespace GenTree
open Imp
variable {c : TreeCfg}

/-- The bridges of one tree file (`GenTreeOpen`, `GenTreeOps`, `GenTreeQuery`), each equation stated here once. The
    translated functions are parameters, not fields: instantiated with `Gen32.bridges` a theorem below speaks of
    `Gen32.insert` itself, and the property files can rewrite with it. -/
structure Bridges (c : TreeCfg) (opn : Rec α β → TreeImage α β → TreeImage α β)
    (ins : Rec α β → TreeImage α β → α → β → Option (TreeImage α β × Option Nat))
    (rem : Rec α β → TreeImage α β → α → Option (TreeImage α β × Option β))
    (gmut : Rec α β → TreeImage α β → α → Option (TreeImage α β × Option Nat))
    (find : Rec α β → TreeImage α β → α → Option (Option Nat))
    (contains : Rec α β → TreeImage α β → α → Option Bool)
    (lowest : Rec α β → TreeImage α β → Option (Option α)) : Prop where
  open_eq : ∀ d m, opn d m = Imp.openMut c m
  insert_eq : ∀ d m k v, ins d m k v =
    if m.hdr.root = 0 ∨ Imp.insertT d m k (m.recs.length + 1) m.hdr.root = true then Imp.insertO c d m k v else none
  remove_eq : ∀ d m k, rem d m k = if Imp.removeTerm d m k then some (Imp.remove d m k) else none
  get_mut_eq : ∀ d m k, gmut d m k = if Imp.findT d m k (m.recs.length + 1) m.hdr.root
    then some (m, Imp.find d m k (m.recs.length + 1) m.hdr.root) else none
  find_eq : ∀ d m k, find d m k = if Imp.findT d m k (m.recs.length + 1) m.hdr.root
    then some (Imp.find d m k (m.recs.length + 1) m.hdr.root) else none
  contains_eq : ∀ d m k, contains d m k = if Imp.findT d m k (m.recs.length + 1) m.hdr.root
    then some (Imp.find d m k (m.recs.length + 1) m.hdr.root).isSome else none
  lowest_eq : ∀ d m, lowest d m = if m.hdr.root = 0 ∨ Imp.leftT d m (m.recs.length + 1) m.hdr.root = true
    then some (Imp.lowest d m) else none

section
variable {opn : Rec α β → TreeImage α β → TreeImage α β}
  {ins : Rec α β → TreeImage α β → α → β → Option (TreeImage α β × Option Nat)}
  {rem : Rec α β → TreeImage α β → α → Option (TreeImage α β × Option β)}
  {gmut : Rec α β → TreeImage α β → α → Option (TreeImage α β × Option Nat)}
  {find : Rec α β → TreeImage α β → α → Option (Option Nat)}
  {contains : Rec α β → TreeImage α β → α → Option Bool}
  {lowest : Rec α β → TreeImage α β → Option (Option α)} (B : Bridges c opn ins rem gmut find contains lowest)
include B

theorem find_refines (kd : α) (vd : β) (s : Tree α β) (h : s.Inv c) (k : α) :
    find (Imp.dflt kd vd) (s.image c kd vd) k = some ((s.root.find k).map (·.1)) := by
  rw [B.find_eq, Tree.image_recs_length, Tree.image_hdr_root,
    Imp.findT_image c kd vd s h k, Imp.find_eq c kd vd s h k]
  rfl

theorem contains_refines (kd : α) (vd : β) (s : Tree α β) (h : s.Inv c) (k : α) :
    contains (Imp.dflt kd vd) (s.image c kd vd) k = some (s.root.find k).isSome := by
  rw [B.contains_eq, Tree.image_recs_length, Tree.image_hdr_root,
    Imp.findT_image c kd vd s h k, Imp.find_eq c kd vd s h k]
  cases s.root.find k <;> rfl

theorem lowest_refines (kd : α) (vd : β) (s : Tree α β) (h : s.Inv c) :
    lowest (Imp.dflt kd vd) (s.image c kd vd) = some s.lowest := by
  rw [B.lowest_eq, Tree.image_recs_length, Tree.image_hdr_root,
    if_pos (Imp.leftT_image c kd vd s h), Imp.lowest_eq c kd vd s h]

theorem get_mut_image (kd : α) (vd : β) (s : Tree α β) (h : s.Inv c) (k : α) :
    gmut (Imp.dflt kd vd) (s.image c kd vd) k = some (s.image c kd vd,
      Imp.find (Imp.dflt kd vd) (s.image c kd vd) k ((s.image c kd vd).recs.length + 1) (s.image c kd vd).hdr.root) := by
  refine (B.get_mut_eq _ _ _).trans (if_pos ?_)
  rw [Tree.image_recs_length]
  exact Imp.findT_image c kd vd s h k

theorem get_mut_refines (kd : α) (vd : β) (s : Tree α β) (h : s.Inv c) (k : α) (v : β) :
    (gmut (Imp.dflt kd vd) (s.image c kd vd) k).map (fun r => match r.2 with
      | none => (s.image c kd vd, false)
      | some i => (wr (s.image c kd vd) i fun r => { r with val := v }, true))
      = some (((s.update k v).1).image c kd vd, (s.update k v).2) := by
  rw [get_mut_image B kd vd s h k, ← Imp.update_eq c kd vd s h k v, Imp.update]
  cases Imp.find (Imp.dflt kd vd) (s.image c kd vd) k ((s.image c kd vd).recs.length + 1) (s.image c kd vd).hdr.root <;> rfl

theorem from_bytes_mut_refines (kd : α) (vd : β) (s : Tree α β) :
    opn (Imp.dflt kd vd) (s.image c kd vd) = (s.openMut c).image c kd vd := by
  rw [B.open_eq]; exact Imp.openMut_eq c kd vd s

theorem insert_refines (kd : α) (vd : β) (s s' : Tree α β) (h : s.Inv c) (k : α) (v : β)
    (r : Option Nat) (hi : s.insert c k v = .ok (s', r)) :
    ins (Imp.dflt kd vd) (s.image c kd vd) k v = some (s'.image c kd vd, r) := by
  rw [B.insert_eq, Tree.image_recs_length, Tree.image_hdr_root,
    if_pos (Imp.insertT_image c kd vd s h k)]
  exact Imp.insertO_eq c kd vd s s' h k v r hi

theorem remove_refines (kd : α) (vd : β) (s s' : Tree α β) (h : s.Inv c) (k : α)
    (r : Option β) (hr : s.remove k = .ok (s', r)) :
    rem (Imp.dflt kd vd) (s.image c kd vd) k = some (s'.image c kd vd, r) := by
  rw [B.remove_eq, Imp.removeTerm_image c kd vd s h k, Imp.remove_eq c kd vd s s' h k r hr]
  rfl

omit [LinOrd α] B in
/-- `Tree.step` keeps the state and drops the answer of `insert` / `remove`; from its success, the answer. -/
theorem ok_of_map_fst {ε σ ρ : Type} {x : Except ε (σ × ρ)} {s' : σ}
    (h : x.map (·.1) = .ok s') : ∃ r, x = .ok (s', r) := by
  cases x with
  | error e => cases h
  | ok p => cases h; exact ⟨p.2, rfl⟩

/-- One whole `insert` as the Rust performs it on a buffer: `from_bytes_mut`, then `insert`. -/
theorem transition_insert (kd : α) (vd : β) (s : Tree α β) (h : Tree.Reach c s) (k : α) (v : β) :
    ∃ s' r, Tree.Reach c s' ∧ (s.openMut c).insert c k v = .ok (s', r) ∧
      ins (Imp.dflt kd vd) (opn (Imp.dflt kd vd) (s.image c kd vd)) k v = some (s'.image c kd vd, r) := by
  have hinv := Tree.reach_inv h
  obtain ⟨s', hs, _⟩ := Tree.step_ok hinv (TreeOp.insert k v) trivial
  obtain ⟨r, hx⟩ := ok_of_map_fst hs
  refine ⟨s', r, Tree.Reach.step (TreeOp.insert k v) h trivial hs, hx, ?_⟩
  rw [from_bytes_mut_refines B kd vd s]
  exact insert_refines B kd vd _ _ (Tree.inv_openMut hinv) k v r hx

theorem transition_remove (kd : α) (vd : β) (s : Tree α β) (h : Tree.Reach c s) (k : α) :
    ∃ s' r, Tree.Reach c s' ∧ (s.openMut c).remove k = .ok (s', r) ∧
      rem (Imp.dflt kd vd) (opn (Imp.dflt kd vd) (s.image c kd vd)) k = some (s'.image c kd vd, r) := by
  have hinv := Tree.reach_inv h
  obtain ⟨s', hs, _⟩ := Tree.step_ok hinv (TreeOp.remove k) trivial
  obtain ⟨r, hx⟩ := ok_of_map_fst hs
  refine ⟨s', r, Tree.Reach.step (TreeOp.remove k) h trivial hs, hx, ?_⟩
  rw [from_bytes_mut_refines B kd vd s]
  exact remove_refines B kd vd _ _ (Tree.inv_openMut hinv) k r hx

end

end GenTree

namespace Gen32

theorem bridges :
    GenTree.Bridges (α := α) (β := β) cfgU32 from_bytes_mut insert remove get_mut find contains lowest :=
  ⟨from_bytes_mut_eq, insert_eq, remove_eq, get_mut_eq, find_eq, contains_eq, lowest_eq⟩

theorem sizes_refine (kd : α) (vd : β) (s : Tree α β) :
    len (Imp.dflt kd vd) (s.image cfgU32 kd vd) = s.size ∧
    capacity (Imp.dflt kd vd) (s.image cfgU32 kd vd) = s.cap ∧
    is_full (Imp.dflt kd vd) (s.image cfgU32 kd vd) = s.isFull ∧
    is_empty (Imp.dflt kd vd) (s.image cfgU32 kd vd) = decide (s.size = 0) :=
  ⟨rfl, rfl, rfl, rfl⟩

end Gen32

namespace Gen8

theorem bridges :
    GenTree.Bridges (α := α) (β := β) cfgU8 from_bytes_mut insert remove get_mut find contains lowest :=
  ⟨from_bytes_mut_eq, insert_eq, remove_eq, get_mut_eq, find_eq, contains_eq, lowest_eq⟩

theorem sizes_refine (kd : α) (vd : β) (s : Tree α β) :
    len (Imp.dflt kd vd) (s.image cfgU8 kd vd) = s.size ∧
    capacity (Imp.dflt kd vd) (s.image cfgU8 kd vd) = s.cap ∧
    is_full (Imp.dflt kd vd) (s.image cfgU8 kd vd) = s.isFull ∧
    is_empty (Imp.dflt kd vd) (s.image cfgU8 kd vd) = decide (s.size = 0) :=
  ⟨rfl, rfl, rfl, rfl⟩

end Gen8

end Stevia
