/-
  Stevia.Proofs.GenASet — translator output for `array_set.rs` (`Stevia.GenA.*`) = the model `Stevia.ASet.*`.
  A failing bounds check / out-of-range copy is `none` on the translated side and `Except.error` in the model;
  the statements are equalities through `Except.toOption`, under the section hypothesis `hle` below (every well-formed
  state satisfies it).
-/
import Stevia.Generated.ASet
import Stevia.Proofs.GenLemmas
import Stevia.Proofs.ArraySearch

namespace Stevia
variable {α κ : Type}

/-- `index` returns `(Some(i), None)` when found and `(None, Some(i))` with the insertion point otherwise. -/
def Idx.pair : Idx → Option Nat × Option Nat
  | .found i => (some i, none)
  | .absent i => (none, some i)

namespace GenA

section
variable [LinOrd κ]

/-- The state `(early result, start, end, left by its condition)` of the binary-search loop after `n` iterations
    (`none` = a bounds check failed). -/
def searchSt (key : α → κ) (vals : List α) (x : κ) :
    Nat → Option (Option Nat × Option Nat) × Nat × Nat × Bool →
      Option (Option (Option Nat × Option Nat) × Nat × Nat × Bool)
  | 0, s => some s
  | n + 1, s =>
    let st := s.2.1
    let e := s.2.2.1
    if ¬ st ≤ e then some (none, st, e, true)
    else
      let mid := st + (e - st) / 2
      match vals[mid]? with
      | none => none
      | some y =>
        if x < key y ∧ e = st then some (none, st, e, true)
        else if x < key y then searchSt key vals x n (none, st, mid - 1, s.2.2.2)
        else if key y < x then searchSt key vals x n (none, mid + 1, e, s.2.2.2)
        else some (some (some mid, none), st, e, s.2.2.2)

/-- With more fuel than positions the loop's state function ends as the model's `search` does: on the same failed
    bounds check, by `return` at the same hit, or by its condition / `break` with `start` at the insertion point. -/
theorem searchSt_run (key : α → κ) (vals : List α) (x : κ) (n st e : Nat) (ps : List Nat) (hn : e + 1 - st < n) :
    match ASet.search key vals x n st e ps with
    | .error _ => searchSt key vals x n (none, st, e, false) = none
    | .ok (.found i, _) => ∃ st' e', searchSt key vals x n (none, st, e, false) = some (some (some i, none), st', e', false)
    | .ok (.absent i, _) => ∃ e', searchSt key vals x n (none, st, e, false) = some (none, i, e', true) := by
  induction n generalizing st e ps with
  | zero => exact absurd hn (Nat.not_lt_zero _)
  | succ n ih =>
    simp only [searchSt, ASet.search]
    by_cases hle : st ≤ e
    · simp only [hle, not_true_eq_false, if_false, if_true]
      obtain ⟨_, _, ⟨_, hfr⟩, hl⟩ := mid_facts hle hn
      generalize st + (e - st) / 2 = m at hfr hl ⊢
      cases hv : vals[m]? with
      | none => rfl
      | some y =>
        simp only []
        by_cases h1 : x < key y
        · by_cases h2 : e = st
          · simp only [h1, h2, and_self, if_true]
            exact ⟨_, rfl⟩
          · simp only [h1, h2, and_false, if_true, if_false]
            obtain ⟨_, _, _, hfl⟩ := hl h2
            exact ih _ _ _ hfl
        · by_cases h3 : key y < x
          · simp only [h1, h3, false_and, if_true, if_false]
            exact ih _ _ _ hfr
          · simp only [h1, h3, false_and, if_false]
            exact ⟨_, _, rfl⟩
    · simp only [hle, not_false_eq_true, if_true, if_false]
      exact ⟨_, rfl⟩

/-- The loop leaves by its own condition, a `break` or a `return` (or fails a bounds check) within the fuel: the
    interval `[start, end]` shrinks in every iteration, so `end + 2 - start` iterations always suffice. -/
theorem searchSt_exit (key : α → κ) (vals : List α) (x : κ) (n st e : Nat) (hn : e + 1 - st < n) :
    ∀ r, searchSt key vals x n (none, st, e, false) = some r → r.1.isSome ∨ r.2.2.2 = true := by
  intro r hr
  have h := searchSt_run key vals x n st e [] hn
  revert h
  cases ASet.search key vals x n st e [] with
  | error _ => intro h; rw [h] at hr; cases hr
  | ok rp =>
    obtain ⟨i | i, _⟩ := rp
    · rintro ⟨_, _, h⟩
      rw [h] at hr; cases hr
      exact Or.inl rfl
    · rintro ⟨_, h⟩
      rw [h] at hr; cases hr
      exact Or.inr rfl

/-- An insertion point returned by the search never lies beyond the count (whatever the slots hold): what makes the
    range `index..len` of the safe `copy_within` form of the shift well-formed. -/
theorem index_absent_le (key : α → κ) (s : ASet α) (x : κ) (i : Nat)
    (h : s.index key x = .ok (.absent i)) : i ≤ s.len := by
  obtain ⟨ps, hp⟩ := ASet.index_ok_iff.mp h
  exact ((ASet.indexP_ok_run hp).absent i rfl).2.1

end

section
-- Every statement to the end of this section assumes `hle`, the prefix does not exceed the slots: the source's
-- `len()` is `min(prefix, slots)` where the model keeps the plain prefix, so the two agree exactly under `hle`.
variable (key : α → κ) (P : Nat) (m : ASet α) (hle : m.len ≤ m.vals.length)
include hle

theorem len_eq : len key P m = m.len :=
  Nat.min_eq_left hle
theorem is_empty_eq : is_empty key P m = m.isEmpty := by
  show decide (len key P m = 0) = (m.len == 0)
  rw [len_eq key P m hle]
  by_cases h : m.len = 0 <;> simp [h]
theorem is_full_eq : is_full key P m = m.isFull P := by
  -- (the two tests may be written in either order; the four cases: count = slots or not, prefix at its maximum
  -- or not — in each both sides are a closed Boolean)
  have hl := len_eq key P m hle
  unfold is_full ASet.isFull ASet.slots
  simp only [Id.run, pure, hl]
  by_cases h1 : m.len = m.vals.length <;> by_cases h2 : m.len + 1 ≤ P <;> simp [h1, h2] <;> omega

variable [LinOrd κ]

/-- The translated binary search is the model's, *and it never runs out of fuel*. -/
theorem index_eq (x : α) :
    index key P m x = (ASet.index key m (key x)).toOption.map Idx.pair := by
  unfold index ASet.index ASet.indexP
  simp only [forIn, is_empty_eq key P m hle, len_eq key P m hle, ASet.isEmpty, beq_iff_eq]
  by_cases h0 : m.len = 0
  · simp [h0, Except.toOption, Except.map, Idx.pair]
  · simp only [h0, if_false]
    rw [Fuel.forIn_eq_of_optF _ (searchSt key m.vals (key x)) (fun s => rfl)]
    · have h := searchSt_run key m.vals (key x) (m.len + 1) 0 (m.len - 1) [] (by omega)
      revert h
      cases ASet.search key m.vals (key x) (m.len + 1) 0 (m.len - 1) [] with
      | error _ => intro h; rw [h]; rfl
      | ok rp =>
        obtain ⟨i | i, _⟩ := rp
        · rintro ⟨_, _, h⟩
          rw [h]; rfl
        · rintro ⟨_, h⟩
          rw [h]; rfl
    · -- the generated loop body is one step of `searchSt`: decided by cases, so that the body may be re-arranged
      intro n ⟨r, st, e, ex⟩
      simp only [searchSt]
      cases m.vals[st + (e - st) / 2]? with
      | none => obtain ⟨_, h⟩ | ⟨_, h⟩ := Decidable.verdict (st ≤ e) <;> rw [h] <;> rfl
      | some y =>
        simp only [Option.bind_eq_bind, Option.bind_some]
        obtain ⟨_, h⟩ | ⟨_, h⟩ := Decidable.verdict (st ≤ e) <;> rw [h]
        · obtain ⟨_, h⟩ | ⟨_, h⟩ := Decidable.verdict (key x < key y) <;> rw [h]
          · obtain ⟨_, h⟩ | ⟨_, h⟩ := Decidable.verdict (e = st) <;> rw [h] <;> rfl
          · obtain ⟨_, h⟩ | ⟨_, h⟩ := Decidable.verdict (key y < key x) <;> rw [h] <;> rfl
        · rfl

theorem get_eq (x : α) :
    get key P m x = (ASet.get key m (key x)).toOption := by
  unfold get ASet.get
  simp only [index_eq key P m hle]
  cases hi : ASet.index key m (key x) with
  | error e => rfl
  | ok r =>
    cases r with
    | found i =>
      simp only [Except.toOption, Option.map_some, Idx.pair, Option.bind_eq_bind, Option.bind_some]
      cases m.vals[i]? <;> rfl
    | absent i => rfl

theorem contains_eq (x : α) :
    contains key P m x = (ASet.contains key m (key x)).toOption := by
  unfold contains ASet.contains
  simp only [get_eq key P m hle]
  cases ASet.get key m (key x) <;> rfl

/-- `get_mut` yields the place (the index of the slot); writing `y` through it is the model's `update`. -/
theorem get_mut_eq (x y : α) :
    (get_mut key P m x).map (fun r => match r.2 with
      | some i => ({ m with vals := m.vals.set i y }, true)
      | none => (m, false)) = (ASet.update key m (key x) y).toOption := by
  unfold get_mut ASet.update
  simp only [index_eq key P m hle]
  cases hi : ASet.index key m (key x) with
  | error e => rfl
  | ok r => cases r <;> rfl

theorem insert_eq (x : α) :
    insert key P m x = (ASet.insert key P m x).toOption := by
  unfold insert ASet.insert
  simp only [index_eq key P m hle, is_full_eq key P m hle, len_eq key P m hle]
  by_cases hf : m.isFull P = true
  · simp only [hf, if_true]; rfl
  · simp only [hf]
    cases hi : ASet.index key m (key x) with
    | error e => rfl
    | ok r =>
      cases r with
      | found i => rfl
      | absent i =>
        simp only [Except.toOption, Option.map_some, Idx.pair, Option.bind_eq_bind, Option.bind_some, Nat.zero_add]
        -- (spellings an equivalent source may use, rewritten to the model's; `try`: the present source may not
        -- contain them. Here the destination index written `1 + index`)
        have e1 : 1 + i = i + 1 := Nat.add_comm 1 i
        try simp only [e1]
        -- (`copy_within(index..len, index + 1)` panics when `index > len`: it never is)
        have hil : i ≤ m.len := index_absent_le key m (key x) i hi
        try simp only [hil, not_true_eq_false, if_false]
        cases hc : ASet.copyWithin m.vals i (i + 1) (m.len - i) with
        | error e => rfl
        | ok vals' =>
          simp only [Option.bind_some]
          by_cases hlt : i < vals'.length
          · simp only [hlt, not_true_eq_false, if_false, if_true]; rfl
          · simp only [hlt, not_false_eq_true, if_true, if_false]; rfl

theorem take_eq (x : α) :
    take key P m x = (ASet.take key m (key x)).toOption := by
  unfold take ASet.take
  simp only [index_eq key P m hle, is_empty_eq key P m hle, len_eq key P m hle, ASet.isEmpty, beq_iff_eq]
  by_cases h0 : m.len = 0
  · simp only [h0, if_true]; rfl
  · simp only [h0, if_false]
    cases hi : ASet.index key m (key x) with
    | error e => rfl
    | ok r =>
      cases r with
      | absent i => rfl
      | found i =>
        simp only [Except.toOption, Option.map_some, Idx.pair, Option.bind_eq_bind, Option.bind_some, Nat.zero_add]
        cases hv : m.vals[i]? with
        | none => rfl
        | some y =>
          simp only [Option.bind_some]
          -- (the guard may be written on the tail length: `len - index - 1 > 0`)
          have e3 : (0 < m.len - i - 1) ↔ (i < m.len - 1) := by omega
          try simp only [e3]
          by_cases hlt : i < m.len - 1
          · simp only [hlt, if_true]
            -- (as in `insert_eq`: the source index written `1 + index`, the count `len - 1 - index`)
            have e1 : 1 + i = i + 1 := Nat.add_comm 1 i
            have e2 : m.len - 1 - i = m.len - i - 1 := Nat.sub_right_comm m.len 1 i
            try simp only [e1, e2]
            cases hc : ASet.copyWithin m.vals (i + 1) i (m.len - i - 1) <;> rfl
          · simp only [hlt, if_false]; rfl

theorem remove_eq (x : α) :
    remove key P m x = ((ASet.take key m (key x)).toOption).map (fun r => (r.1, r.2.isSome)) := by
  unfold remove
  simp only [take_eq key P m hle]
  cases ASet.take key m (key x) <;> rfl

end

/-- `Deref`: the slice view is the first `len()` slots — it never panics. -/
theorem deref_eq (key : α → κ) (P : Nat) (m : ASet α) :
    deref key P m = some (m.vals.take (min m.len m.vals.length)) ∧
    (m.len ≤ m.vals.length → deref key P m = some m.view) := by
  have h1 : deref key P m = some (m.vals.take (min m.len m.vals.length)) := by
    have hle : min m.len m.vals.length ≤ m.vals.length := Nat.min_le_right _ _
    simp only [deref, len, Id.run, pure, hle, not_true_eq_false, if_false]
  refine ⟨h1, fun hle => ?_⟩
  rw [h1, Nat.min_eq_left hle]
  rfl

end GenA
end Stevia
