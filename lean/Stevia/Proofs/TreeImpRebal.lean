/-
  Stevia.Proofs.TreeImpRebal — tree-level meaning of the rotations and of the part of one iteration of the
  `rebalance` loop that works below the path node (`Imp.rebalCore`), each proved once for both sides.
-/
import Stevia.Proofs.TreeImpRep

namespace Stevia
variable {α β : Type}

namespace T

/-- `rotL` (`b = true`) / `rotR` (`b = false`): the child on side `b` comes up. -/
def rot (b : Bool) (t : T α β) : T α β := if b then rotL t else rotR t

theorem slots_rot (b : Bool) (t : T α β) : (rot b t).slots = t.slots := by
  unfold rot; split
  · exact slots_rotL t
  · exact slots_rotR t

theorem rot_ne_nil (b : Bool) {t : T α β} (h : t ≠ nil) : rot b t ≠ nil := by
  intro e
  have hs := slots_rot b t
  rw [e] at hs
  cases t with
  | nil => exact h rfl
  | node => simp at hs

theorem rebal_eq_mk (i : Nat) (l : T α β) (k : α) (v : β) (r : T α β) :
    ∃ j l' k' v' r', rebal i l k v r = mk j l' k' v' r' := by
  unfold rebal
  by_cases h1 : ht r + 1 < ht l
  · rw [if_pos h1]
    generalize (if ht l.left < ht l.right then rotL l else l) = l'
    cases l' <;> exact ⟨_, _, _, _, _, rfl⟩
  · rw [if_neg h1]
    by_cases h2 : ht l + 1 < ht r
    · rw [if_pos h2]
      generalize (if ht r.right < ht r.left then rotR r else r) = r'
      cases r' <;> exact ⟨_, _, _, _, _, rfl⟩
    · rw [if_neg h2]
      exact ⟨_, _, _, _, _, rfl⟩

theorem ht_pos_iff {t : T α β} : 0 < t.ht ↔ t ≠ nil := by
  cases t <;> simp [ht]

end T

namespace Frame

/-- A rotation exchanges the two frames around the grandchild that changes its parent. -/
theorem rot_node (fx fy : Frame α β) (hx hy : Nat) (B : T α β) (hd : fy.dir = !fx.dir) :
    T.rot fx.dir (fx.node hx (fy.node hy B)) = fy.mkNode (fx.mkNode B) := by
  rw [fy.mkNode_eq, fx.mkNode_eq]
  unfold T.rot node
  cases hfx : fx.dir <;> simp only [hfx, Bool.not_false, Bool.not_true] at hd <;> simp [hd, T.rotL, T.rotR]

/-- `rebal` at the path node `fr` whose child in the hole, `G.node hh M`, is too high.  `G` is that child seen from
    its inner grandchild `M`, the one on the side of `fr.sib`: if `M` is the higher grandchild the child is rotated
    first, then the node is rotated. -/
theorem rebal_heavy (fr G : Frame α β) (hh : Nat) (M : T α β) (hG : G.dir = !fr.dir)
    (hheavy : fr.sib.ht + 1 < (G.node hh M).ht) :
    fr.rebal (G.node hh M) = T.rot fr.dir
      (fr.mkNode (if G.sib.ht < M.ht then T.rot (!fr.dir) (G.node hh M) else G.node hh M)) := by
  rw [G.ht_node] at hheavy
  rw [fr.mkNode_eq]
  unfold rebal T.rebal T.rot
  cases hfr : fr.dir
  · rw [hfr] at hG
    simp only [Bool.false_eq_true, if_false, Bool.not_false, if_true, node, hG, T.ht_node, if_pos hheavy,
      T.left_node, T.right_node]
  · rw [hfr] at hG
    simp only [if_true, Bool.not_true, Bool.false_eq_true, if_false, node, hG, T.ht_node,
      if_neg (show ¬ hh + 1 + 1 < fr.sib.ht by omega), if_pos hheavy, T.left_node, T.right_node]

theorem slots_rebal (fr : Frame α β) (h : Nat) (t : T α β) : (fr.rebal t).slots = (fr.node h t).slots := by
  obtain ⟨l, r, hn, hr⟩ := fr.plain h t
  rw [hn, hr, T.slots_rebal, T.slots_node]

end Frame

variable (d : Rec α β) (hdr : Hdr) {n : Nat} {f : Nat → Rec α β}

theorem rotate_rep (fx : Frame α β) {hx : Nat} {C : T α β} (hC : C ≠ .nil) (ho : Own n f (fx.node hx C)) :
    ∃ f', Imp.rotate d (mkImg hdr n f) fx.dir fx.i = (mkImg hdr n f', (T.rot fx.dir (fx.node hx C)).slot) ∧
      Own n f' (T.rot fx.dir (fx.node hx C)) ∧ Agree (fx.node hx C).slots f' f := by
  -- the child that comes up, seen from the grandchild `B` that changes its parent
  obtain ⟨fy, hy, B, hd, rfl⟩ := T.exists_view (!fx.dir) hC
  obtain ⟨hfx, hY, hA⟩ := (fx.rep_node hx _).1 ho.rep
  obtain ⟨hfy, hB, hS⟩ := (fy.rep_node hy B).1 hY
  have hxin := ho.valid.node.root
  have hyin := ho.sub.valid.node.root
  have hrot := Frame.rot_node fx fy hx hy B hd
  -- distinctness is read off the rotated tree
  have hv : Valid n (fy.mkNode (fx.mkNode B)).slots := by
    rw [← hrot, T.slots_rot]; exact ho.valid
  simp only [Imp.rotate, rd_mkImg d hdr n f hxin.1 hxin.2, hfx, fx.child_rc, Frame.slot_node,
    rd_mkImg d hdr n f hyin.1 hyin.2, hfy]
  rw [← hd, fy.child_rc]
  obtain ⟨f1, e1, o1, a1⟩ := updateChild_fill d hdr fx hfx hA (Agree.refl [] f) (fun _ h => nomatch h) hB
    hv.node.hole
  obtain ⟨f2, e2, o2, a2⟩ := updateChild_fill d hdr fy hfy hS a1 (fun _ h => h) o1.rep hv
  rw [Frame.slot_node] at e2
  rw [e1, e2, hrot, Frame.slot_node]
  rw [← hrot, T.slots_rot] at a2
  exact ⟨f2, rfl, o2, a2⟩

/-- The literal single or double rotation is `fr.rebal`; `fr`, `G`, `M` as in `Frame.rebal_heavy`. -/
theorem rebalHeavy_rep (fr G : Frame α β)
    {h hh : Nat} {M : T α β} (hG : G.dir = !fr.dir) (ho : Own n f (fr.node h (G.node hh M)))
    (hheavy : fr.sib.ht + 1 < (G.node hh M).ht) :
    ∃ f', Imp.rebalHeavy d (mkImg hdr n f) fr.i fr.dir (G.sib.ht < M.ht) =
        (mkImg hdr n f', some (fr.rebal (G.node hh M)).slot) ∧
      Rep f' (fr.rebal (G.node hh M)) ∧ Agree (fr.node h (G.node hh M)).slots f' f := by
  obtain ⟨hfc, -, hS⟩ := (fr.rep_node h _).1 ho.rep
  have hcin := ho.valid.node.root
  rw [fr.rebal_heavy G hh M hG hheavy]
  unfold Imp.rebalHeavy
  rw [rd_mkImg d hdr n f hcin.1 hcin.2, hfc, fr.child_rc, Frame.slot_node]
  by_cases hp : G.sib.ht < M.ht
  · simp only [if_pos hp, ← hG]
    -- double rotation: first at the child; the path node gets what came up; then at the path node
    have hsl := fr.slots_node_congr h (max (T.rot G.dir (G.node hh M)).ht fr.sib.ht)
      (T.slots_rot G.dir (G.node hh M))
    obtain ⟨f1, e1, o1, a1⟩ := rotate_rep d hdr G (T.ht_pos_iff.1 (Nat.zero_lt_of_lt hp)) ho.sub
    obtain ⟨f2, e2, o2, a2⟩ := updateChild_fill d hdr fr hfc hS a1 (fun j hj => by rwa [T.slots_rot]) o1.rep
      (by rw [hsl]; exact ho.valid)
    obtain ⟨f3, e3, o3, a3⟩ := rotate_rep d hdr fr (T.rot_ne_nil _ (T.ht_pos_iff.1 (Nat.zero_lt_of_lt hheavy))) o2
    simp only [e1, e2, e3]
    rw [← hsl]
    exact ⟨f3, rfl, o3.rep, a3.trans a2⟩
  · simp only [if_neg hp]
    -- single rotation
    obtain ⟨f', e, o, a⟩ := rotate_rep d hdr fr (T.ht_pos_iff.1 (Nat.zero_lt_of_lt hheavy)) ho
    rw [Frame.rot_node fr G h hh M hG] at e o
    rw [e, Frame.rot_node fr G _ hh M hG]
    exact ⟨f', rfl, o.rep, a⟩

/-- The four tests `rebalance` makes on a balance factor are the height comparisons of `T.rebal`. -/
theorem balanceFactor_tests (a b : Nat) :
    ((a : Int) - b > 1 ↔ b + 1 < a) ∧ ((a : Int) - b < -1 ↔ a + 1 < b) ∧
      ((a : Int) - b < 0 ↔ a < b) ∧ ((a : Int) - b > 0 ↔ b < a) := by
  omega

theorem Own.balanceFactor {c h : Nat} {l r : T α β} {k : α} {v : β}
    (ho : Own n f (.node c l k v h r)) :
    Imp.balanceFactor d (mkImg hdr n f) l.slot r.slot = (l.ht : Int) - (r.ht : Int) := by
  rw [balanceFactor_mkImg d hdr n f ho.left.valid.slot_le ho.right.valid.slot_le, ho.left.hgt_slot, ho.right.hgt_slot]

theorem updateHeight_rep {c h : Nat} {l r : T α β} {k : α} {v : β} (ho : Own n f (.node c l k v h r)) :
    ∃ f', Imp.updateHeight d (mkImg hdr n f) c = mkImg hdr n f' ∧ Rep f' (T.mk c l k v r) ∧
      Agree [c] f' f := by
  have hdv := Valid.node (fr := ⟨c, k, v, h, false, r⟩) (h := h) (t := l) ho.valid
  have e := updateHeight_mkImg d hdr n f ho.root.1 ho.root.2 (by rw [ho.at_root]; exact ho.left.valid.slot_le)
    (by rw [ho.at_root]; exact ho.right.valid.slot_le)
  rw [ho.at_root] at e
  simp only [T.rc] at e
  rw [ho.left.hgt_slot, ho.right.hgt_slot] at e
  exact ⟨_, e, ⟨upd_same _ _ _, ho.rep.left.upd_of_not_mem _ hdv.notin_hole,
    ho.rep.right.upd_of_not_mem _ hdv.notin_sib⟩, agree_upd _ _ (by simp)⟩

/-- `o` is `none` iff no rotation took place, and else holds the node that came up; the last conjunct says both in the
    one form the caller needs. -/
theorem rebalCore_rep (fr : Frame α β) {h : Nat} {t : T α β} (ho : Own n f (fr.node h t)) :
    ∃ f' o, Imp.rebalCore d (mkImg hdr n f) fr.i = (mkImg hdr n f', o) ∧
      Rep f' (fr.rebal t) ∧ Agree (fr.node h t).slots f' f ∧ o.getD fr.i = (fr.rebal t).slot := by
  -- the side of the hole plays no part: which child is too high is read off the heights
  obtain ⟨l, r, hn, hr⟩ := fr.plain h t
  rw [hn] at ho ⊢
  rw [hr]
  unfold Imp.rebalCore
  rw [ho.rd d hdr]
  simp only [T.rc, ho.balanceFactor d hdr, balanceFactor_tests]
  by_cases h1 : r.ht + 1 < l.ht
  · rw [if_pos h1]
    cases l with
    | nil => simp at h1
    | node j ll lk lv lh lr =>
      obtain ⟨f', e, r', a⟩ := rebalHeavy_rep d hdr ⟨fr.i, fr.k, fr.v, h, false, r⟩ ⟨j, lk, lv, lh, true, ll⟩
        (h := h) (hh := lh) (M := lr) rfl ho h1
      simp only [T.slot_node, ho.left.rd d hdr, T.rc, ho.left.balanceFactor d hdr, balanceFactor_tests]
      exact ⟨f', _, e, r', a, rfl⟩
  · rw [if_neg h1]
    by_cases h2 : l.ht + 1 < r.ht
    · rw [if_pos h2]
      cases r with
      | nil => simp at h2
      | node j rl rk rv rh rr =>
        obtain ⟨f', e, r', a⟩ := rebalHeavy_rep d hdr ⟨fr.i, fr.k, fr.v, h, true, l⟩ ⟨j, rk, rv, rh, false, rr⟩
          (h := h) (hh := rh) (M := rl) rfl ho h2
        simp only [T.slot_node, ho.right.rd d hdr, T.rc, ho.right.balanceFactor d hdr, balanceFactor_tests]
        exact ⟨f', _, e, r', a, rfl⟩
    · rw [if_neg h2, T.rebal_mid (Nat.le_of_not_lt h1) (Nat.le_of_not_lt h2)]
      obtain ⟨f', e, r', a⟩ := updateHeight_rep d hdr ho
      exact ⟨f', none, by rw [e], r', a.mono (by simp), rfl⟩

end Stevia
