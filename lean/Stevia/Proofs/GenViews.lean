/-
  Stevia.Proofs.GenViews — the translated view constructors (`Stevia/Generated/Views.lean`) are `View.split`, the
  translated `data_len` is `View.dataLen`; consequences of the split used by C04, C05 and C10.
-/
import Stevia.Generated.Views
import Stevia.Proofs.Bytes

namespace Stevia

theorem castOk_iff {R n : Nat} (hR : R ≠ 0) : castOk R n ↔ n % R = 0 := by
  rw [castOk, if_neg hR]

theorem castOk_zero {n : Nat} : castOk 0 n ↔ n = 0 := by
  rw [castOk, if_pos rfl]

namespace GenV

private theorem view_eq (H R : Nat) (bytes : ByteArray) :
    (do
      if ¬ (H ≤ bytes.size) then failure
      let (a, n) := (bytes.extract 0 H, bytes.extract H bytes.size)
      if ¬ (a.size = H) then failure
      if ¬ (castOk R n.size) then failure
      return (a, n) : Option (ByteArray × ByteArray)) = View.split H R bytes := by
  unfold View.split
  by_cases h : H ≤ bytes.size
  · have h1 : (bytes.extract 0 H).size = H := size_extract_le h
    have h2 : (bytes.extract H bytes.size).size = bytes.size - H := size_extract_le (Nat.le_refl _)
    by_cases hc : castOk R (bytes.size - H)
    · simp [h, h1, h2, hc]
    · simp [h, h1, h2, hc]
  · simp [h]

theorem avl32_from_bytes_eq (H R : Nat) (b : ByteArray) : avl32_from_bytes H R b = View.split H R b := by
  unfold avl32_from_bytes; exact view_eq H R b
theorem avl32_from_bytes_mut_eq (H R : Nat) (b : ByteArray) : avl32_from_bytes_mut H R b = View.split H R b := by
  unfold avl32_from_bytes_mut; exact view_eq H R b
theorem avl8_from_bytes_eq (H R : Nat) (b : ByteArray) : avl8_from_bytes H R b = View.split H R b := by
  unfold avl8_from_bytes; exact view_eq H R b
theorem avl8_from_bytes_mut_eq (H R : Nat) (b : ByteArray) : avl8_from_bytes_mut H R b = View.split H R b := by
  unfold avl8_from_bytes_mut; exact view_eq H R b
theorem hset_from_bytes_eq (H R : Nat) (b : ByteArray) : hset_from_bytes H R b = View.split H R b := by
  unfold hset_from_bytes; exact view_eq H R b
theorem hset_from_bytes_mut_eq (H R : Nat) (b : ByteArray) : hset_from_bytes_mut H R b = View.split H R b := by
  unfold hset_from_bytes_mut; exact view_eq H R b
theorem aset_from_bytes_eq (H R : Nat) (b : ByteArray) : aset_from_bytes H R b = View.split H R b := by
  unfold aset_from_bytes; exact view_eq H R b
theorem aset_from_bytes_mut_eq (H R : Nat) (b : ByteArray) : aset_from_bytes_mut H R b = View.split H R b := by
  unfold aset_from_bytes_mut; exact view_eq H R b

theorem accessors_eq (ws : List Nat) (i v : Nat) :
    avl32_get_register ws i = View.getWord ws i ∧ avl32_set_register ws i v = View.setWord ws i v ∧
    avl32_get_field ws i = View.getWord ws i ∧ avl32_set_field ws i v = View.setWord ws i v ∧
    avl8_get_register ws i = View.getWord ws i ∧ avl8_set_register ws i v = View.setWord ws i v ∧
    avl8_get_field ws i = View.getWord ws i ∧ avl8_set_field ws i v = View.setWord ws i v ∧
    hset_get_register ws i = View.getWord ws i ∧ hset_set_register ws i v = View.setWord ws i v ∧
    hset_get_field ws i = View.getWord ws i ∧ hset_set_field ws i v = View.setWord ws i v :=
  ⟨rfl, rfl, rfl, rfl, rfl, rfl, rfl, rfl, rfl, rfl, rfl, rfl⟩

theorem avl32_data_len_eq (H R c : Nat) : avl32_data_len H R c = View.dataLen H R c := rfl
theorem avl8_data_len_eq (H R c : Nat) : avl8_data_len H R c = View.dataLen H R c := rfl
theorem hset_data_len_eq (H R c : Nat) : hset_data_len H R c = View.dataLen H R c := rfl

end GenV

namespace View

theorem split_isSome_iff (H R : Nat) (b : ByteArray) :
    (split H R b).isSome ↔ H ≤ b.size ∧ castOk R (b.size - H) := by
  unfold split
  by_cases h : H ≤ b.size ∧ castOk R (b.size - H) <;> simp [h]

theorem split_of_size_lt {H R : Nat} {b : ByteArray} (h : b.size < H) : split H R b = none := by
  rw [split, if_neg (fun hg => Nat.not_le.2 h hg.1)]

/-- The accessor pair is a faithful word store: a write is read back, every other word and the length are kept. -/
theorem setWord_spec {ws ws' : List Nat} {i v : Nat} (h : setWord ws i v = some ws') :
    getWord ws' i = some v ∧ (∀ j, j ≠ i → getWord ws' j = getWord ws j) ∧ ws'.length = ws.length := by
  unfold setWord at h
  split at h
  · rename_i hi
    cases h
    refine ⟨by simp [getWord, hi], ?_, by simp⟩
    intro j hj
    simp [getWord, Ne.symm hj]
  · cases h

theorem split_parts {H R : Nat} {b a n : ByteArray} (h : split H R b = some (a, n)) :
    a = b.extract 0 H ∧ n = b.extract H b.size ∧ a.size = H ∧ a.size + n.size = b.size ∧
      castOk R n.size ∧ a ++ n = b := by
  unfold split at h
  split at h
  · rename_i hg
    simp only [Option.some.injEq, Prod.mk.injEq] at h
    obtain ⟨rfl, rfl⟩ := h
    have h1 : (b.extract 0 H).size = H := size_extract_le hg.1
    have h2 : (b.extract H b.size).size = b.size - H := size_extract_le (Nat.le_refl _)
    refine ⟨rfl, rfl, h1, by rw [h1, h2, Nat.add_sub_cancel' hg.1], by rw [h2]; exact hg.2, ?_⟩
    rw [ByteArray.extract_append_extract, Nat.min_eq_left (Nat.zero_le _), Nat.max_eq_right hg.1]
    exact ByteArray.extract_zero_size
  · simp at h

theorem split_dataLen {H R cap : Nat} {b : ByteArray} (hR : 0 < R) (hb : b.size = dataLen H R cap) :
    ∃ a n, split H R b = some (a, n) ∧ a.size = H ∧ n.size = cap * R := by
  unfold dataLen at hb
  have hsz : b.size - H = cap * R := by omega
  have hg : H ≤ b.size ∧ castOk R (b.size - H) :=
    ⟨by omega, (castOk_iff (Nat.ne_of_gt hR)).2 (by rw [hsz, Nat.mul_mod_left])⟩
  obtain ⟨⟨a, n⟩, hp⟩ := Option.isSome_iff_exists.1 ((split_isSome_iff H R b).2 hg)
  obtain ⟨_, _, h3, h4, _, _⟩ := split_parts hp
  exact ⟨a, n, hp, h3, by omega⟩

theorem split_between {H R cap : Nat} {b : ByteArray} (h1 : dataLen H R cap < b.size)
    (h2 : b.size < dataLen H R (cap + 1)) : split H R b = none := by
  unfold dataLen at h1 h2
  rw [split, if_neg]
  rintro ⟨hH, hc⟩
  by_cases hR : R = 0
  · have := castOk_zero.1 (hR ▸ hc)
    omega
  · -- the size less the header would be a multiple `q * R` with `cap < q < cap + 1`
    obtain ⟨q, hq⟩ := Nat.dvd_of_mod_eq_zero ((castOk_iff hR).1 hc)
    rw [Nat.mul_comm R q] at hq
    have l1 : cap < q := Nat.lt_of_mul_lt_mul_right (a := R) (by omega)
    have l2 : q < cap + 1 := Nat.lt_of_mul_lt_mul_right (a := R) (by omega)
    omega

end View
end Stevia
