/-
  Stevia.Proofs.GenTreeQuery — translated tree source = literal model (see `GenTreeBal`): read-only queries and
  `get_mut`.
-/
import Stevia.Generated.Avl32Query
import Stevia.Generated.Avl8Query
import Stevia.Model.TreeImpTerm
import Stevia.Proofs.GenLemmas

namespace Stevia
open Imp
variable {α β : Type} [LinOrd α]
-- `capacity_eq` … `is_full_eq` carry an unused `[LinOrd α]`
set_option linter.unusedSectionVars false

namespace Gen32

theorem capacity_eq (d : Rec α β) (m : TreeImage α β) : capacity d m = m.hdr.cap := rfl

theorem len_eq (d : Rec α β) (m : TreeImage α β) : len d m = m.hdr.size := rfl

theorem is_empty_eq (d : Rec α β) (m : TreeImage α β) : is_empty d m = decide (m.hdr.size = 0) := rfl

theorem is_full_eq (d : Rec α β) (m : TreeImage α β) : is_full d m = Imp.isFull m := rfl

theorem find_eq (d : Rec α β) (m : TreeImage α β) (key : α) :
    find d m key = if Imp.findT d m key (m.recs.length + 1) m.hdr.root
      then some (Imp.find d m key (m.recs.length + 1) m.hdr.root) else none := by
  unfold find
  simp only [forIn]
  generalize m.recs.length + 1 = fuel
  generalize m.hdr.root = node
  induction fuel generalizing node with
  | zero => rfl
  | succ n ih =>
    simp only [Fuel.forIn, Imp.find, Imp.findT]
    obtain ⟨_, e⟩ | ⟨_, e⟩ := Decidable.verdict (node = 0) <;> rw [e]
    · rfl
    obtain ⟨_, e⟩ | ⟨_, e⟩ := Decidable.verdict (key < (rd d m node).key) <;> rw [e]
    · exact ih _
    obtain ⟨_, e⟩ | ⟨_, e⟩ := Decidable.verdict ((rd d m node).key < key) <;> rw [e]
    · exact ih _
    · rfl

theorem get_eq (d : Rec α β) (m : TreeImage α β) (key : α) :
    get d m key = if Imp.findT d m key (m.recs.length + 1) m.hdr.root
      then some ((Imp.find d m key (m.recs.length + 1) m.hdr.root).map fun i => (rd d m i).val) else none := by
  simp only [get, find_eq]
  split <;> rfl

theorem contains_eq (d : Rec α β) (m : TreeImage α β) (key : α) :
    contains d m key = if Imp.findT d m key (m.recs.length + 1) m.hdr.root
      then some (Imp.find d m key (m.recs.length + 1) m.hdr.root).isSome else none := by
  simp only [contains, find_eq]
  split <;> rfl

theorem lowest_eq (d : Rec α β) (m : TreeImage α β) :
    lowest d m = if m.hdr.root = 0 ∨ Imp.leftT d m (m.recs.length + 1) m.hdr.root = true
      then some (Imp.lowest d m) else none := by
  unfold lowest Imp.lowest
  simp only [forIn]
  by_cases hr : m.hdr.root = 0
  · simp only [hr, true_or, if_true]; rfl
  · simp only [hr, false_or, if_false]
    generalize m.recs.length + 1 = fuel
    generalize m.hdr.root = node
    induction fuel generalizing node with
    | zero => rfl
    | succ n ih =>
      simp only [Fuel.forIn]
      rw [Imp.lowestGo, Imp.leftT]
      obtain ⟨_, e⟩ | ⟨_, e⟩ := Decidable.verdict ((rd d m node).left = 0) <;> rw [e]
      · rfl
      · exact ih _

/-- `get_mut` yields the place of the value (its record index); writing through the place is `Imp.update`. -/
theorem get_mut_eq (d : Rec α β) (m : TreeImage α β) (key : α) :
    get_mut d m key = if Imp.findT d m key (m.recs.length + 1) m.hdr.root
      then some (m, Imp.find d m key (m.recs.length + 1) m.hdr.root) else none := by
  simp only [get_mut, find_eq]
  split
  · simp only [Option.bind_eq_bind, Option.bind_some, pure, Option.map_id_fun', id_eq]
  · rfl

end Gen32

namespace Gen8

theorem capacity_eq (d : Rec α β) (m : TreeImage α β) : capacity d m = m.hdr.cap := rfl

theorem len_eq (d : Rec α β) (m : TreeImage α β) : len d m = m.hdr.size := rfl

theorem is_empty_eq (d : Rec α β) (m : TreeImage α β) : is_empty d m = decide (m.hdr.size = 0) := rfl

theorem is_full_eq (d : Rec α β) (m : TreeImage α β) : is_full d m = Imp.isFull m := rfl

theorem find_eq (d : Rec α β) (m : TreeImage α β) (key : α) :
    find d m key = if Imp.findT d m key (m.recs.length + 1) m.hdr.root
      then some (Imp.find d m key (m.recs.length + 1) m.hdr.root) else none := by
  unfold find
  simp only [forIn]
  generalize m.recs.length + 1 = fuel
  generalize m.hdr.root = node
  induction fuel generalizing node with
  | zero => rfl
  | succ n ih =>
    simp only [Fuel.forIn, Imp.find, Imp.findT]
    obtain ⟨_, e⟩ | ⟨_, e⟩ := Decidable.verdict (node = 0) <;> rw [e]
    · rfl
    obtain ⟨_, e⟩ | ⟨_, e⟩ := Decidable.verdict (key < (rd d m node).key) <;> rw [e]
    · exact ih _
    obtain ⟨_, e⟩ | ⟨_, e⟩ := Decidable.verdict ((rd d m node).key < key) <;> rw [e]
    · exact ih _
    · rfl

theorem get_eq (d : Rec α β) (m : TreeImage α β) (key : α) :
    get d m key = if Imp.findT d m key (m.recs.length + 1) m.hdr.root
      then some ((Imp.find d m key (m.recs.length + 1) m.hdr.root).map fun i => (rd d m i).val) else none := by
  simp only [get, find_eq]
  split <;> rfl

theorem contains_eq (d : Rec α β) (m : TreeImage α β) (key : α) :
    contains d m key = if Imp.findT d m key (m.recs.length + 1) m.hdr.root
      then some (Imp.find d m key (m.recs.length + 1) m.hdr.root).isSome else none := by
  simp only [contains, find_eq]
  split <;> rfl

theorem lowest_eq (d : Rec α β) (m : TreeImage α β) :
    lowest d m = if m.hdr.root = 0 ∨ Imp.leftT d m (m.recs.length + 1) m.hdr.root = true
      then some (Imp.lowest d m) else none := by
  unfold lowest Imp.lowest
  simp only [forIn]
  by_cases hr : m.hdr.root = 0
  · simp only [hr, true_or, if_true]; rfl
  · simp only [hr, false_or, if_false]
    generalize m.recs.length + 1 = fuel
    generalize m.hdr.root = node
    induction fuel generalizing node with
    | zero => rfl
    | succ n ih =>
      simp only [Fuel.forIn]
      rw [Imp.lowestGo, Imp.leftT]
      obtain ⟨_, e⟩ | ⟨_, e⟩ := Decidable.verdict ((rd d m node).left = 0) <;> rw [e]
      · rfl
      · exact ih _

theorem get_mut_eq (d : Rec α β) (m : TreeImage α β) (key : α) :
    get_mut d m key = if Imp.findT d m key (m.recs.length + 1) m.hdr.root
      then some (m, Imp.find d m key (m.recs.length + 1) m.hdr.root) else none := by
  simp only [get_mut, find_eq]
  split
  · simp only [Option.bind_eq_bind, Option.bind_some, pure, Option.map_id_fun', id_eq]
  · rfl

end Gen8

end Stevia
