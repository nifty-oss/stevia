/-
  Stevia.Proofs.GenLemmas — what the bridges `translated = model` share: fuel loops, the translator's idiom after a
  loop, and the lemma by which a test on variables is made to compute.

  How the translated loops are bridged:
  * with the rest of the function attached, by induction on the fuel against the model's own recursion, where that
    rest is small: `find`, `lowest` (GenTreeQuery), `insert` (GenTreeOps), `contains`, `insert`, `remove` (GenHSet);
  * the loop alone, through `Fuel.forIn_eq_of_opt` / `_optF` and a function that gives the state after `n`
    iterations: `remove` (GenTreeOps), the iterator (`GenH.skipSt`, GenHSetIter), the binary search (`GenA.searchSt`,
    GenASet); past the loop by `Option.bind_eq_of_eq_some` or by cases on what the loop returned;
  * `copy_from_str` (GenStr): the model recurses on the position, not on the fuel, so the loop alone by induction on
    the fuel for every position within it.
  The tests of a loop body are decided by cases on the data where they are data (a `Bool`, an `Option`) and by
  `Decidable.verdict` where they compare variables; `rfl` then evaluates both sides.
-/
import Stevia.Model.Fuel

namespace Stevia

/-- A fuel loop computes any function that satisfies its one-step unfolding. -/
theorem Fuel.forIn_eq {m : Type → Type} [Monad m] {σ : Type} (body : Unit → σ → m (ForInStep σ)) (F : Nat → σ → m σ)
    (h0 : ∀ s, F 0 s = pure s)
    (hstep : ∀ n s, F (n + 1) s = body () s >>= fun r => match r with
      | .done s' => pure s'
      | .yield s' => F n s') :
    ∀ n s, Fuel.forIn body n s = F n s := by
  intro n
  induction n with
  | zero => intro s; rw [Fuel.forIn, h0]
  | succ n ih =>
    intro s
    rw [Fuel.forIn, hstep]
    refine congrArg _ (funext fun r => ?_)
    cases r with
    | done s' => rfl
    | yield s' => exact ih s'

/-- `Fuel.forIn_eq` in `Id`, with `F` a pure function. -/
theorem Fuel.forIn_eq_of {σ : Type} (body : Unit → σ → Id (ForInStep σ)) (F : Nat → σ → σ)
    (h0 : ∀ s, F 0 s = s)
    (hstep : ∀ n s, F (n + 1) s = match body () s with
      | .done s' => s'
      | .yield s' => F n s') :
    ∀ n s, Fuel.forIn body n s = (pure (F n s) : Id σ) :=
  Fuel.forIn_eq body (fun n s => pure (F n s)) (fun s => congrArg pure (h0 s)) fun n s => by
    rw [hstep]
    show _ = (match body () s with | .done s' => pure s' | .yield s' => pure (F n s'))
    cases body () s <;> rfl

/-- In `Option`, for a body that may fail: `F` is partial, `none` propagates. -/
theorem Fuel.forIn_eq_of_optF {σ : Type} (body : Unit → σ → Option (ForInStep σ)) (F : Nat → σ → Option σ)
    (h0 : ∀ s, F 0 s = some s)
    (hstep : ∀ n s, match body () s with
      | some (.done s') => F (n + 1) s = some s'
      | some (.yield s') => F (n + 1) s = F n s'
      | none => F (n + 1) s = none) :
    ∀ n s, Fuel.forIn body n s = F n s :=
  Fuel.forIn_eq body F h0 fun n s => by
    have h := hstep n s
    cases hb : body () s with
    | none => rw [hb] at h; exact h
    | some x => rw [hb] at h; cases x <;> exact h

/-- In `Option`, for a body that never fails. -/
theorem Fuel.forIn_eq_of_opt {σ : Type} (body : Unit → σ → Option (ForInStep σ)) (F : Nat → σ → σ)
    (h0 : ∀ s, F 0 s = s)
    (hstep : ∀ n s, match body () s with
      | some (.done s') => F (n + 1) s = s'
      | some (.yield s') => F (n + 1) s = F n s'
      | none => False) :
    ∀ n s, Fuel.forIn body n s = some (F n s) :=
  Fuel.forIn_eq_of_optF body (fun n s => some (F n s)) (fun s => congrArg some (h0 s)) fun n s => by
    have h := hstep n s
    split at h
    · exact congrArg some h
    · exact congrArg some h
    · exact h.elim

theorem Option.bind_eq_of_eq_some {σ γ : Type} {x : Option σ} {a : σ} (h : x = some a) (f : σ → Option γ) :
    x >>= f = f a := by
  subst h; rfl

/-- The translator's check after a `while`/`loop`. -/
theorem Fuel.exit_eq {γ : Type} (exit : Bool) (k : Unit → Option γ) :
    (if ¬ exit = true then failure >>= k else k ()) = if exit = true then k () else none := by
  cases exit <;> rfl

/-- A test `if c then .. else ..` on variables does not reduce by computation: its `Decidable` instance is stuck. It
    does once the instance is rewritten to the verdict, and `rw` reaches an instance wherever it stands, also under the
    binders of a `do` block, where `if_pos`/`if_neg` find no closed `if` to rewrite. After
    `obtain ⟨_, e⟩ | ⟨_, e⟩ := Decidable.verdict c <;> rw [e]` every test built from `c` (negated or not) computes in
    both goals, and `rfl` evaluates the two sides. Verdicts come last: a later `simp` builds the instances anew. -/
theorem Decidable.verdict (c : Prop) [inst : Decidable c] :
    (∃ h : c, inst = isTrue h) ∨ (∃ h : ¬ c, inst = isFalse h) := by
  cases inst with
  | isTrue h => exact .inl ⟨h, rfl⟩
  | isFalse h => exact .inr ⟨h, rfl⟩

/-- For a test whose verdict is already in the context (after an early `return` has been split off: the node index
    in `remove`), where `verdict` would offer a case that cannot occur. -/
theorem Decidable.eq_isFalse {c : Prop} [inst : Decidable c] (h : ¬ c) : inst = isFalse h := Subsingleton.elim _ _

theorem forIn_eq_foldl_of {γ σ : Type} (l : List γ) (init : σ) (body : γ → σ → Id (ForInStep σ)) (g : σ → γ → σ)
    (h : ∀ a b, body a b = pure (ForInStep.yield (g b a))) :
    forIn l init body = (pure (l.foldl g init) : Id σ) := by
  have : body = fun a b => pure (ForInStep.yield (g b a)) := funext fun a => funext fun b => h a b
  rw [this]
  exact List.forIn_pure_yield_eq_foldl _ _

end Stevia
