/-
  Stevia.Proofs.TreeImpRep — "the memory `f` represents the tree `t`": every node of `t` has its
  record in `f` at its slot (`Rep`); with distinct slots inside the buffer, `f` owns `t` (`Own`).

  Every lemma about an operation `op` of the literal model, here and in the files that follow, has one shape:

      ∃ f', op (mkImg hdr n f) = (mkImg hdr n f', out) ∧ Rep f' result ∧ Agree X f' f

  `f` is the memory before and `f'` the memory after; `result` is what the functional model computes (under `Rep`,
  or under `OwnZ`, TreeImpLoop, where the tree is held as a zipper); the footprint `X` lists the slots `op` may have
  written.  Two steps compose by `Agree.trans`, once `Agree.mono` has widened both footprints to a common one.  What
  a step does not touch is still represented after it: `Rep.agree` for a subtree, `RepCtx.agree` (TreeImpLoop) for a
  context, given that its slots are disjoint from `X` — which is always read off a `Valid`.
-/
import Stevia.Proofs.TreeState
import Stevia.Proofs.TreeImpMem

namespace Stevia
variable {α β : Type}

/-- The record of a node with children `l`, `r` (`Frame.rc` is the same record, said from a frame). -/
def T.rc (l : T α β) (k : α) (v : β) (h : Nat) (r : T α β) : Rec α β :=
  ⟨l.slot, r.slot, h, 0, k, v⟩

/-- `f` holds the record of every node of `t` at the node's slot. -/
def Rep (f : Nat → Rec α β) : T α β → Prop
  | .nil => True
  | .node i l k v h r => f i = T.rc l k v h r ∧ Rep f l ∧ Rep f r

theorem Rep.at_root {f : Nat → Rec α β} {i h : Nat} {l r : T α β} {k : α} {v : β}
    (hr : Rep f (.node i l k v h r)) : f i = T.rc l k v h r := hr.1

theorem Rep.left {f : Nat → Rec α β} {i h : Nat} {l r : T α β} {k : α} {v : β}
    (hr : Rep f (.node i l k v h r)) : Rep f l := hr.2.1

theorem Rep.right {f : Nat → Rec α β} {i h : Nat} {l r : T α β} {k : α} {v : β}
    (hr : Rep f (.node i l k v h r)) : Rep f r := hr.2.2

theorem Rep.agree {X : List Nat} {f' f : Nat → Rec α β} {t : T α β} (hr : Rep f t) (a : Agree X f' f)
    (hd : ∀ j ∈ t.slots, j ∉ X) : Rep f' t := by
  induction t with
  | nil => trivial
  | node i l k v hh r ihl ihr =>
    obtain ⟨h1, h2, h3⟩ := hr
    exact ⟨(a i (hd i (by simp))).trans h1, ihl h2 (fun j hj => hd j (by simp [hj])),
      ihr h3 (fun j hj => hd j (by simp [hj]))⟩

theorem Rep.agree₁ {i : Nat} {f' f : Nat → Rec α β} {t : T α β} (hr : Rep f t) (a : Agree [i] f' f)
    (hni : i ∉ t.slots) : Rep f' t :=
  hr.agree a fun _ hj hm => hni (List.mem_singleton.1 hm ▸ hj)

theorem Rep.upd_of_not_mem {f : Nat → Rec α β} {t : T α β} {i : Nat} (rc : Rec α β)
    (hni : i ∉ t.slots) (hr : Rep f t) : Rep (upd f i rc) t :=
  hr.agree₁ (agree_upd f rc (List.mem_singleton_self i)) hni

theorem Rep.of_isSub {f : Nat → Rec α β} {t t' : T α β} (hr : Rep f t) (hs : T.IsSub t' t) : Rep f t' := by
  induction hs with
  | refl => exact hr
  | left _ ih => exact ih hr.left
  | right _ ih => exact ih hr.right

theorem Tree.rep_recAt (c : TreeCfg) (kd : α) (vd : β) (s : Tree α β) (hnd : s.root.slots.Nodup) :
    Rep (s.recAt c kd vd) s.root := by
  suffices h : ∀ t' : T α β, T.IsSub t' s.root → Rep (s.recAt c kd vd) t' from h _ (.refl _)
  intro t'
  induction t' with
  | nil => intro _; trivial
  | node i l k v hh r ihl ihr =>
    intro hs
    exact ⟨(Tree.recAt_node c kd vd s hnd hs).2, ihl (T.IsSub.trans (.left (.refl _)) hs),
      ihr (T.IsSub.trans (.right (.refl _)) hs)⟩

theorem Tree.recAt_congr_free (c : TreeCfg) (kd : α) (vd : β) {s s' : Tree α β} {j : Nat}
    (h : j ∉ s.root.slots) (h' : j ∉ s'.root.slots)
    (hfn : freeNext (s'.seqReg c) s'.free j = freeNext (s.seqReg c) s.free j) :
    s'.recAt c kd vd j = s.recAt c kd vd j := by
  unfold Tree.recAt
  rw [T.sub_none h, T.sub_none h', hfn]

/-- The closing step of every operation. -/
theorem mkImg_eq_image (c : TreeCfg) (kd : α) (vd : β) (s' : Tree α β) (f : Nat → Rec α β)
    (hnd : s'.root.slots.Nodup) (hr : Rep f s'.root)
    (hfree : ∀ j, j ∉ s'.root.slots → f j = s'.recAt c kd vd j) :
    mkImg (s'.hdr c) s'.slots f = s'.image c kd vd := by
  rw [Tree.image_eq_mkImg]
  apply mkImg_congr
  intro j _ _
  by_cases hm : j ∈ s'.root.slots
  · obtain ⟨l, k, v, hh, r, hs⟩ := T.exists_isSub_of_mem_slots hm
    rw [(Tree.recAt_node c kd vd s' hnd hs).2]
    exact (hr.of_isSub hs).at_root
  · exact hfree j hm

/-- A node seen from one of its children, whose place is the *hole*: `dir` is the side of the hole as a path entry
    records it, `sib` the other child.  Rotations, `update_child` and `rebalance` are stated about frames, hence once
    for both sides; the recorded ancestor path is a list of frames. -/
structure Frame (α β : Type) where
  i : Nat
  k : α
  v : β
  /-- The height register when the frame was taken.  Only `plug` (TreeImpLoop) reads it: every other function takes
      the height as an argument, since the walk back up recomputes it. -/
  h : Nat
  dir : Bool
  sib : T α β

namespace Frame

/-- The node with `t` in the hole and height register `h`. -/
def node (fr : Frame α β) (h : Nat) (t : T α β) : T α β :=
  if fr.dir then .node fr.i fr.sib fr.k fr.v h t else .node fr.i t fr.k fr.v h fr.sib

abbrev mkNode (fr : Frame α β) (t : T α β) : T α β := fr.node (max t.ht fr.sib.ht) t

def rebal (fr : Frame α β) (t : T α β) : T α β :=
  if fr.dir then T.rebal fr.i fr.sib fr.k fr.v t else T.rebal fr.i t fr.k fr.v fr.sib

/-- The record of the frame's node when the register of the hole holds `s`. -/
def rc (fr : Frame α β) (h s : Nat) : Rec α β :=
  if fr.dir then ⟨fr.sib.slot, s, h, 0, fr.k, fr.v⟩ else ⟨s, fr.sib.slot, h, 0, fr.k, fr.v⟩

theorem mkNode_eq (fr : Frame α β) (t : T α β) :
    fr.mkNode t = if fr.dir then T.mk fr.i fr.sib fr.k fr.v t else T.mk fr.i t fr.k fr.v fr.sib := by
  unfold mkNode node T.mk
  cases fr.dir
  · rfl
  · simp only [if_true, Nat.max_comm]

@[simp] theorem slot_node (fr : Frame α β) (h : Nat) (t : T α β) : (fr.node h t).slot = fr.i := by
  unfold node; split <;> rfl

@[simp] theorem ht_node (fr : Frame α β) (h : Nat) (t : T α β) : (fr.node h t).ht = h + 1 := by
  unfold node; split <;> rfl

theorem slots_node_perm (fr : Frame α β) (h : Nat) (t : T α β) :
    (fr.node h t).slots.Perm (t.slots ++ fr.i :: fr.sib.slots) := by
  unfold node
  split
  · rw [T.slots_node]
    exact List.perm_append_comm.trans List.perm_middle.symm
  · rw [T.slots_node]

theorem slots_node_congr (fr : Frame α β) (h h' : Nat) {t t' : T α β} (e : t'.slots = t.slots) :
    (fr.node h' t').slots = (fr.node h t).slots := by
  unfold node; split <;> simp [e]

theorem mem_slots_node (fr : Frame α β) (h : Nat) (t : T α β) {x : Nat} :
    x ∈ (fr.node h t).slots ↔ x ∈ t.slots ∨ x = fr.i ∨ x ∈ fr.sib.slots := by
  rw [(fr.slots_node_perm h t).mem_iff, List.mem_append, List.mem_cons]

theorem rep_node {f : Nat → Rec α β} (fr : Frame α β) (h : Nat) (t : T α β) :
    Rep f (fr.node h t) ↔ f fr.i = fr.rc h t.slot ∧ Rep f t ∧ Rep f fr.sib := by
  unfold node rc
  cases fr.dir
  · exact Iff.rfl
  · simp only [if_true, Rep, T.rc]
    exact ⟨fun ⟨a, b, c⟩ => ⟨a, c, b⟩, fun ⟨a, c, b⟩ => ⟨a, b, c⟩⟩

/-- Where the side plays no part: `fr.node h t` and `fr.rebal t` as a plain `node` and `T.rebal`. -/
theorem plain (fr : Frame α β) (h : Nat) (t : T α β) :
    ∃ l r, fr.node h t = .node fr.i l fr.k fr.v h r ∧ fr.rebal t = T.rebal fr.i l fr.k fr.v r := by
  unfold node rebal; split <;> exact ⟨_, _, rfl, rfl⟩

theorem bal_node {fr : Frame α β} {h : Nat} {t : T α β} (hb : (fr.node h t).Bal) : t.Bal := by
  unfold node at hb
  split at hb
  · exact hb.2.1
  · exact hb.1

theorem link_rc (fr : Frame α β) (h s c H : Nat) : (fr.rc h s).link fr.dir c H = fr.rc H c := by
  unfold rc Rec.link; cases fr.dir <;> rfl

theorem child_rc (fr : Frame α β) (h s : Nat) : (fr.rc h s).child fr.dir = s := by
  unfold rc Rec.child; cases fr.dir <;> rfl

theorem child_rc_not (fr : Frame α β) (h s : Nat) : (fr.rc h s).child (!fr.dir) = fr.sib.slot := by
  unfold rc Rec.child; cases fr.dir <;> rfl

theorem rc_height (fr : Frame α β) (h s : Nat) : (fr.rc h s).height = h := by
  unfold rc; split <;> rfl

theorem rc_self {fr : Frame α β} {r : Rec α β} {h s : Nat} (e : r = fr.rc h s) : r = fr.rc r.height s := by
  subst e; rw [fr.rc_height]

end Frame

theorem T.exists_view (b : Bool) {t : T α β} (hne : t ≠ .nil) :
    ∃ (fr : Frame α β) (h : Nat) (c : T α β), fr.dir = b ∧ t = fr.node h c := by
  cases t with
  | nil => exact absurd rfl hne
  | node i l k v h r =>
    cases b
    · exact ⟨⟨i, k, v, h, false, r⟩, h, l, rfl, rfl⟩
    · exact ⟨⟨i, k, v, h, true, l⟩, h, r, rfl, rfl⟩

section Ownership
variable {n : Nat} {f : Nat → Rec α β}

/-- `f` holds the records of `t`, and the slots of `t` are distinct records of the buffer. -/
structure Own (n : Nat) (f : Nat → Rec α β) (t : T α β) : Prop where
  rep : Rep f t
  valid : Valid n t.slots

/-- What `Valid n (fr.node h t).slots` says, part by part (`t` is in the hole). -/
structure Frame.Distinct (n : Nat) (fr : Frame α β) (t : T α β) : Prop where
  root : 1 ≤ fr.i ∧ fr.i ≤ n
  notin_hole : fr.i ∉ t.slots
  notin_sib : fr.i ∉ fr.sib.slots
  hole : Valid n t.slots
  sib : Valid n fr.sib.slots
  disj : ∀ j ∈ t.slots, j ∉ fr.sib.slots

/-- Lemmas ask for `Valid` of the slots of the tree they *produce*; rotations and `rebal` keep the slots as they are,
    so this one lemma, applied to the result, yields every "this node is not inside that subtree" a proof needs. -/
theorem Valid.node {fr : Frame α β} {h : Nat} {t : T α β} (hv : Valid n (fr.node h t).slots) :
    fr.Distinct n t := by
  have hv' := hv.perm (fr.slots_node_perm h t).symm
  obtain ⟨hi, his, hs⟩ := valid_cons.1 hv'.right
  exact ⟨hi, fun hm => hv'.disjoint _ hm (by simp), his, hv'.left, hs,
    fun j hj hm => hv'.disjoint j hj (by simp [hm])⟩

theorem Own.sub {fr : Frame α β} {h : Nat} {t : T α β}
    (ho : Own n f (fr.node h t)) : Own n f t :=
  ⟨((fr.rep_node h t).1 ho.rep).2.1, ho.valid.node.hole⟩

theorem Own.left {i h : Nat} {l r : T α β} {k : α} {v : β}
    (ho : Own n f (.node i l k v h r)) : Own n f l := Own.sub (fr := ⟨i, k, v, h, false, r⟩) ho

theorem Own.right {i h : Nat} {l r : T α β} {k : α} {v : β}
    (ho : Own n f (.node i l k v h r)) : Own n f r := Own.sub (fr := ⟨i, k, v, h, true, l⟩) ho

theorem Own.root {i h : Nat} {l r : T α β} {k : α} {v : β}
    (ho : Own n f (.node i l k v h r)) : 1 ≤ i ∧ i ≤ n := ho.valid.range i (by simp)

theorem Own.slot_ne_zero {i h : Nat} {l r : T α β} {k : α} {v : β}
    (ho : Own n f (.node i l k v h r)) : i ≠ 0 := Nat.pos_iff_ne_zero.1 ho.root.1

theorem Own.at_root {i h : Nat} {l r : T α β} {k : α} {v : β}
    (ho : Own n f (.node i l k v h r)) : f i = T.rc l k v h r := ho.rep.at_root

theorem Own.rd {i h : Nat} {l r : T α β} {k : α} {v : β}
    (ho : Own n f (.node i l k v h r)) (d : Rec α β) (hdr : Hdr) :
    Imp.rd d (mkImg hdr n f) i = T.rc l k v h r := by
  rw [rd_mkImg d hdr n f ho.root.1 ho.root.2, ho.at_root]

theorem Valid.slot_le {t : T α β} (hv : Valid n t.slots) : t.slot ≤ n := by
  cases t with
  | nil => exact Nat.zero_le _
  | node i l k v h r => exact (hv.range i (by simp)).2

theorem T.slot_ne_of_not_mem {t : T α β} {p : Nat} (hp : 1 ≤ p) (h : p ∉ t.slots) : t.slot ≠ p := by
  cases t with
  | nil => simp only [T.slot_nil]; omega
  | node i l k v hh r => exact fun e => h (by simp [← e])

theorem Own.hgt_slot {t : T α β} (h : Own n f t) : hgt f t.slot = t.ht := by
  cases t with
  | nil => rfl
  | node i l k v hh r =>
    simp [hgt, h.at_root, T.rc, h.slot_ne_zero]

theorem Own.slot_eq_zero {t : T α β} (ho : Own n f t) : t.slot = 0 ↔ t = .nil := by
  cases t with
  | nil => simp
  | node i l k v h r => have := ho.root; simp; omega

theorem Own.height_le {t : T α β} (ho : Own n f t) : t.height ≤ n :=
  ho.valid.height_le

/-- `update_child` puts `L` into the hole of `fr`.  An earlier step has built `L` in `f1` out of the memory `f`, writing
    only slots of `L` (`a1`, `hX`): the record of `fr` and its sibling are still as in `f`, since `hv` keeps them apart
    from `L`. -/
theorem updateChild_fill (d : Rec α β) (hdr : Hdr) (fr : Frame α β)
    {h0 a : Nat} {L : T α β} {X : List Nat} {f1 : Nat → Rec α β} (hfr : f fr.i = fr.rc h0 a) (hs : Rep f fr.sib)
    (a1 : Agree X f1 f) (hX : ∀ j ∈ X, j ∈ L.slots) (hL : Rep f1 L) (hv : Valid n (fr.mkNode L).slots) :
    ∃ f', Imp.updateChild d (mkImg hdr n f1) fr.i fr.dir L.slot = mkImg hdr n f' ∧
      Own n f' (fr.mkNode L) ∧ Agree (fr.mkNode L).slots f' f := by
  have hd := hv.node
  have hfr1 : f1 fr.i = fr.rc h0 a := (a1 fr.i fun hm => hd.notin_hole (hX _ hm)).trans hfr
  have hs1 : Rep f1 fr.sib := hs.agree a1 fun j hj hm => hd.disj j (hX j hm) hj
  have e := updateChild_mkImg d hdr n f1 fr.dir hd.root.1 hd.root.2 hd.hole.slot_le
    (by rw [hfr1, fr.child_rc_not]; exact hd.sib.slot_le)
    (T.slot_ne_of_not_mem hd.root.1 hd.notin_hole)
    (by rw [hfr1, fr.child_rc_not]; exact T.slot_ne_of_not_mem hd.root.1 hd.notin_sib)
  rw [hfr1, fr.child_rc_not, fr.link_rc, Own.hgt_slot ⟨hL, hd.hole⟩, Own.hgt_slot ⟨hs1, hd.sib⟩] at e
  refine ⟨_, e, ⟨?_, hv⟩, (agree_upd _ _ ((fr.mem_slots_node _ L).2 (.inr (.inl rfl)))).trans
    (a1.mono fun j hj => (fr.mem_slots_node _ L).2 (.inl (hX j hj)))⟩
  rw [Frame.rep_node]
  exact ⟨upd_same _ _ _, hL.upd_of_not_mem _ hd.notin_hole, hs1.upd_of_not_mem _ hd.notin_sib⟩

end Ownership

section Layout
variable [LinOrd α]

theorem Tree.Inv.rootNodup {c : TreeCfg} {s : Tree α β} (h : s.Inv c) : s.root.slots.Nodup :=
  (List.nodup_append.1 h.nodup).1

theorem Tree.Inv.rootValid {c : TreeCfg} {s : Tree α β} (h : s.Inv c) : Valid s.slots s.root.slots :=
  ⟨h.rootNodup, fun i hi => h.layoutOk.range i (by simp [hi])⟩

theorem Tree.Inv.own {c : TreeCfg} {s : Tree α β} (h : s.Inv c) (kd : α) (vd : β) :
    Own s.slots (s.recAt c kd vd) s.root :=
  ⟨Tree.rep_recAt c kd vd s h.rootNodup, h.rootValid⟩

theorem Tree.Inv.height_le {c : TreeCfg} {s : Tree α β} (h : s.Inv c) : s.root.height ≤ s.slots :=
  h.rootValid.height_le

end Layout

end Stevia
