/-
  Stevia.Proofs.ArraySetState — invariant of the array-set model.  A well-formed set is its view plus the stale
  slots behind it (`ASet.ofView`); the answer of `index` (from the loop's contract in ArraySearch plus sortedness)
  cuts the view in two, and on a set cut like that each operation is a list equation, from which it is specified.
-/
import Stevia.Proofs.ArraySearch

namespace Stevia
variable {α κ : Type} [LinOrd κ]

/-- Keys strictly ascending. -/
def AscK : List κ → Prop
  | [] => True
  | a :: rest => (∀ b ∈ rest, a < b) ∧ AscK rest

/-- Invariant: the count fits the buffer and the prefix type; the view is strictly ascending. -/
structure ASet.Inv (key : α → κ) (P : Nat) (s : ASet α) : Prop where
  len_le : s.len ≤ s.slots
  len_leP : s.len ≤ P
  sorted : AscK (s.view.map key)

def insSorted (key : α → κ) (x : α) : List α → List α
  | [] => [x]
  | y :: rest => if key x < key y then x :: y :: rest else y :: insSorted key x rest

def findK (key : α → κ) (k : κ) : List α → Option α
  | [] => none
  | y :: rest => if sameK (key y) k then some y else findK key k rest

def eraseK (key : α → κ) (k : κ) : List α → List α
  | [] => []
  | y :: rest => if sameK (key y) k then rest else y :: eraseK key k rest

def setK (key : α → κ) (k : κ) (y' : α) : List α → List α
  | [] => []
  | y :: rest => if sameK (key y) k then y' :: rest else y :: setK key k y' rest

inductive ASOp (α κ : Type) where
  | insert (x : α)
  | take (k : κ)
  | get (k : κ)
  | contains (k : κ)
  | len

inductive ASOut (α : Type) where
  | bool (b : Bool)
  | val (o : Option α)
  | nat (n : Nat)

/-- Reference step on the sorted member list `m` with size bound `bound`. -/
def BSorted.step (key : α → κ) (bound : Nat) (m : List α) : ASOp α κ → List α × ASOut α
  | .insert x =>
    if (findK key (key x) m).isSome ∨ m.length ≥ bound then (m, .bool false)
    else (insSorted key x m, .bool true)
  | .take k => (eraseK key k m, .val (findK key k m))
  | .get k => (m, .val (findK key k m))
  | .contains k => (m, .bool (findK key k m).isSome)
  | .len => (m, .nat m.length)

def BSorted.run (key : α → κ) (bound : Nat) (m : List α) : List (ASOp α κ) → List α × List (ASOut α)
  | [] => (m, [])
  | op :: ops =>
    let r := BSorted.step key bound m op
    let rr := BSorted.run key bound r.1 ops
    (rr.1, r.2 :: rr.2)

def ASet.opStep (key : α → κ) (P : Nat) (s : ASet α) : ASOp α κ → Except Fault (ASet α × ASOut α)
  | .insert x => (s.insert key P x).map fun r => (r.1, .bool r.2)
  | .take k => (s.take key k).map fun r => (r.1, .val r.2)
  | .get k => (s.get key k).map fun r => (s, .val r)
  | .contains k => (s.contains key k).map fun r => (s, .bool r)
  | .len => .ok (s, .nat s.len)

def ASet.opRun (key : α → κ) (P : Nat) (s : ASet α) : List (ASOp α κ) → Except Fault (ASet α × List (ASOut α))
  | [] => .ok (s, [])
  | op :: ops =>
    match s.opStep key P op with
    | .error e => .error e
    | .ok (s', o) =>
      match ASet.opRun key P s' ops with
      | .error e => .error e
      | .ok (s'', os) => .ok (s'', o :: os)

section Lemmas
variable {key : α → κ} {P : Nat} {s : ASet α}

/-- How `AscK` is meant to be used: every proof below goes through core's `Pairwise`. -/
theorem ascK_iff_pairwise : ∀ l : List κ, AscK l ↔ l.Pairwise (· < ·)
  | [] => by simp [AscK]
  | a :: l => by simp [AscK, ascK_iff_pairwise l]

theorem findK_append_cons {k : κ} (a : List α) (y : α) (b : List α)
    (ha : ∀ z ∈ a, key z < k) (hy : key y = k) : findK key k (a ++ y :: b) = some y := by
  induction a with
  | nil => simp [findK, sameK_iff, hy]
  | cons z a ih =>
    have hz : ¬ sameK (key z) k := not_sameK_of_lt (ha z (by simp))
    simp only [List.cons_append, findK, hz, if_false]
    exact ih (fun w hw => ha w (by simp [hw]))

theorem findK_eq_none {k : κ} {l : List α} (h : ∀ z ∈ l, ¬ sameK (key z) k) : findK key k l = none := by
  induction l with
  | nil => rfl
  | cons z l ih =>
    simp only [findK, h z List.mem_cons_self, if_false]
    exact ih fun w hw => h w (List.mem_cons_of_mem _ hw)

theorem findK_append_none {k : κ} (a b : List α)
    (ha : ∀ z ∈ a, key z < k) (hb : ∀ z ∈ b, k < key z) : findK key k (a ++ b) = none :=
  findK_eq_none fun z hz =>
    (List.mem_append.mp hz).elim (fun hz => not_sameK_of_lt (ha z hz)) (fun hz => not_sameK_of_gt (hb z hz))

theorem eraseK_append_cons {k : κ} (a : List α) (y : α) (b : List α)
    (ha : ∀ z ∈ a, key z < k) (hy : key y = k) : eraseK key k (a ++ y :: b) = a ++ b := by
  induction a with
  | nil => simp [eraseK, sameK_iff, hy]
  | cons z a ih =>
    have hz : ¬ sameK (key z) k := not_sameK_of_lt (ha z (by simp))
    simp only [List.cons_append, eraseK, hz, if_false]
    rw [ih (fun w hw => ha w (by simp [hw]))]

theorem setK_append_cons {k : κ} (a : List α) (y y' : α) (b : List α)
    (ha : ∀ z ∈ a, key z < k) (hy : key y = k) : setK key k y' (a ++ y :: b) = a ++ y' :: b := by
  induction a with
  | nil => simp [setK, sameK_iff, hy]
  | cons z a ih =>
    have hz : ¬ sameK (key z) k := not_sameK_of_lt (ha z (by simp))
    simp only [List.cons_append, setK, hz, if_false]
    rw [ih (fun w hw => ha w (by simp [hw]))]

theorem insSorted_append {x : α} (a b : List α)
    (ha : ∀ z ∈ a, key z < key x) (hb : ∀ z ∈ b, key x < key z) :
    insSorted key x (a ++ b) = a ++ x :: b := by
  induction a with
  | nil =>
    cases b with
    | nil => rfl
    | cons z b => simp [insSorted, hb z (by simp)]
  | cons z a ih =>
    have hz : ¬ key x < key z := LinOrd.asymm (ha z (by simp))
    simp only [List.cons_append, insSorted, hz, if_false]
    rw [ih (fun w hw => ha w (by simp [hw]))]

theorem eraseK_of_findK_none {k : κ} (l : List α) (h : findK key k l = none) :
    eraseK key k l = l := by
  induction l with
  | nil => rfl
  | cons z l ih =>
    simp only [findK] at h
    by_cases hz : sameK (key z) k
    · simp [hz] at h
    · simp only [hz, if_false] at h
      simp only [eraseK, hz, if_false, ih h]

theorem ascK_append_cons (a : List α) (x : α) (b : List α) :
    AscK ((a ++ x :: b).map key) ↔
      AscK ((a ++ b).map key) ∧ (∀ z ∈ a, key z < key x) ∧ (∀ z ∈ b, key x < key z) := by
  simp only [ascK_iff_pairwise, List.pairwise_map, List.pairwise_append, List.pairwise_cons, List.mem_cons,
    forall_eq_or_imp]
  constructor
  · rintro ⟨h1, ⟨h2, h3⟩, h4⟩
    exact ⟨⟨h1, h3, fun z hz => (h4 z hz).2⟩, fun z hz => (h4 z hz).1, h2⟩
  · rintro ⟨⟨h1, h3, h4⟩, ha, hb⟩
    exact ⟨h1, ⟨hb, h3⟩, fun z hz => ⟨ha z hz, h4 z hz⟩⟩

/-- Footprint of the raw copies: under the guards the code establishes, both
    ranges of `ptr::copy` stay inside the value slots.  (The model's form of the bounds; `C05.insert_copy_in_bounds`
    and `C05.take_copy_in_bounds` state them over the copy expressions extracted from the source, `Facts.*`.) -/
theorem ASet.copy_in_bounds_insert (index len slots : Nat) (h1 : len < slots) (h2 : index ≤ len) :
    index + (len - index) ≤ slots ∧ (index + 1) + (len - index) ≤ slots := by
  omega

theorem ASet.copy_in_bounds_take (index len slots : Nat) (h1 : len ≤ slots) (h2 : index < len - 1) :
    (index + 1) + (len - index - 1) ≤ slots ∧ index + (len - index - 1) ≤ slots := by
  omega

section
omit [LinOrd κ]

/-- The set whose view is `v`, with `c` in the slots beyond `len`: the stale elements the shifts of `insert` and
    `take` leave there, which the model keeps because the bytes are compared exactly. -/
def ASet.ofView (v c : List α) : ASet α := ⟨v.length, v ++ c⟩

@[simp] theorem ASet.view_ofView (v c : List α) : (ASet.ofView v c).view = v := List.take_left' rfl

@[simp] theorem ASet.len_ofView (v c : List α) : (ASet.ofView v c).len = v.length := rfl

@[simp] theorem ASet.vals_ofView (v c : List α) : (ASet.ofView v c).vals = v ++ c := rfl

@[simp] theorem ASet.slots_ofView (v c : List α) : (ASet.ofView v c).slots = v.length + c.length :=
  List.length_append

theorem ASet.getElem?_ofView_cut (a : List α) (y : α) (b c : List α) :
    (ASet.ofView (a ++ y :: b) c).vals[a.length]? = some y := by simp

theorem set_length_append (a : List α) (e x : α) (r : List α) : (a ++ e :: r).set a.length x = a ++ x :: r := by
  rw [List.set_append_right _ _ (Nat.le_refl _), Nat.sub_self, List.set_cons_zero]

/-- `insert`'s copy moves `b` one slot to the right, over the first stale slot; the slot at the cut keeps a copy
    `e` of what was there, which the write that follows replaces. -/
theorem ASet.copyWithin_right (a b : List α) (d : α) (c : List α) :
    ∃ e, copyWithin (a ++ b ++ d :: c) a.length (a.length + 1) b.length = .ok (a ++ e :: b ++ c) := by
  unfold copyWithin
  rw [if_neg (by simp only [List.length_append, List.length_cons]; omega), List.append_assoc a,
    List.take_length_add_append, List.drop_left' rfl, List.take_left' rfl, Nat.add_assoc,
    List.drop_length_add_append, Nat.add_comm 1, List.drop_length_add_append]
  cases b with
  | nil => exact ⟨d, by simp⟩
  | cons b0 b => exact ⟨b0, by simp⟩

/-- `take`'s copy moves `b` one slot to the left, over the taken element; the last element of the view stays
    behind as the first stale slot `e`. -/
theorem ASet.copyWithin_left (a : List α) (y : α) (b c : List α) :
    ∃ e, copyWithin (a ++ y :: b ++ c) (a.length + 1) a.length b.length = .ok (a ++ b ++ e :: c) := by
  unfold copyWithin
  rw [if_neg (by simp only [List.length_append, List.length_cons]; omega), List.append_assoc a,
    List.take_left' rfl, List.drop_length_add_append, List.drop_length_add_append, List.cons_append,
    List.drop_one, List.tail_cons, List.take_left' rfl, ← List.cons_append,
    List.drop_append_of_le_length (Nat.le_succ _),
    List.drop_eq_getElem_cons (show b.length < (y :: b).length from Nat.lt_succ_self _)]
  exact ⟨(y :: b)[b.length], by simp⟩

theorem ASet.getElem?_view {j : Nat} {z : α} (hz : s.view[j]? = some z) : j < s.len ∧ s.vals[j]? = some z := by
  rw [ASet.view, List.getElem?_take] at hz
  split at hz
  · exact ⟨by assumption, hz⟩
  · cases hz

end

theorem ASet.inv_ofView {v c : List α} : (ASet.ofView v c).Inv key P ↔ v.length ≤ P ∧ AscK (v.map key) := by
  refine ⟨fun h => ⟨h.len_leP, ASet.view_ofView v c ▸ h.sorted⟩,
    fun h => ⟨?_, h.1, (ASet.view_ofView v c).symm ▸ h.2⟩⟩
  rw [ASet.slots_ofView]
  exact Nat.le_add_right _ _

theorem ASet.Inv.eq_ofView (h : s.Inv key P) : s = ASet.ofView s.view (s.vals.drop s.len) := by
  obtain ⟨len, vals⟩ := s
  simp only [ASet.ofView, ASet.view, List.take_append_drop, List.length_take_of_le h.len_le]

theorem ASet.insert_ofView {a b c : List α} {d x : α} (hP : (a ++ b).length < P)
    (hidx : (ASet.ofView (a ++ b) (d :: c)).index key (key x) = .ok (.absent a.length)) :
    (ASet.ofView (a ++ b) (d :: c)).insert key P x = .ok (ASet.ofView (a ++ x :: b) c, true) := by
  obtain ⟨e, hcw⟩ := ASet.copyWithin_right a b d c
  have hnf : (ASet.ofView (a ++ b) (d :: c)).isFull P = false := by
    rw [List.length_append] at hP
    simp [ASet.isFull]
    omega
  unfold ASet.insert
  rw [hnf, hidx]
  simp only [ASet.ofView, List.length_append, Nat.add_sub_cancel_left, hcw, Bool.false_eq_true, if_false]
  rw [if_pos (by simp; omega), List.append_assoc, List.cons_append, set_length_append]
  simp [Nat.add_assoc]

theorem ASet.take_ofView {a b c : List α} {y : α} {k : κ}
    (hidx : (ASet.ofView (a ++ y :: b) c).index key k = .ok (.found a.length)) :
    ∃ e, (ASet.ofView (a ++ y :: b) c).take key k = .ok (ASet.ofView (a ++ b) (e :: c), some y) := by
  unfold ASet.take
  rw [if_neg (by simp), hidx]
  simp only [ASet.getElem?_ofView_cut]
  cases b with
  | nil =>
    -- the last element: nothing to move, it stays behind as the first stale slot
    refine ⟨y, ?_⟩
    rw [if_neg (by simp)]
    simp [ASet.ofView]
  | cons b0 b =>
    obtain ⟨e, hcw⟩ := ASet.copyWithin_left a y (b0 :: b) c
    refine ⟨e, ?_⟩
    rw [if_pos (by simp)]
    have hcnt : (ASet.ofView (a ++ y :: b0 :: b) c).len - a.length - 1 = (b0 :: b).length := by
      simp
    simp only [hcnt]
    simp only [ASet.ofView, hcw]
    simp [Nat.add_assoc]

theorem ASet.update_ofView {a b c : List α} {y y' : α} {k : κ}
    (hidx : (ASet.ofView (a ++ y :: b) c).index key k = .ok (.found a.length)) :
    (ASet.ofView (a ++ y :: b) c).update key k y' = .ok (ASet.ofView (a ++ y' :: b) c, true) := by
  unfold ASet.update
  rw [hidx]
  simp only [ASet.ofView, List.append_assoc, List.cons_append, set_length_append]
  simp

theorem ASet.Inv.view_length (h : s.Inv key P) : s.view.length = s.len :=
  List.length_take_of_le h.len_le

/-- `key vals[j] ≤ key vals[m]` for slots `j ≤ m` of the view, said through `<` (a `LinOrd` has no `≤`). -/
theorem ASet.Inv.key_le_of_le (h : s.Inv key P) {j m : Nat} {z y : α} (hjm : j ≤ m) (hm : m < s.len)
    (hz : s.vals[j]? = some z) (hy : s.vals[m]? = some y) (x : κ) :
    (key y < x → key z < x) ∧ (x < key z → x < key y) := by
  rcases Nat.lt_or_eq_of_le hjm with hlt | rfl
  · have hp := (ascK_iff_pairwise _).mp h.sorted
    rw [List.pairwise_map, List.pairwise_iff_getElem] at hp
    have hl := h.view_length
    have hzy := hp j m (by omega) (by omega) hlt
    simp only [ASet.view, List.getElem_take] at hzy
    obtain ⟨_, rfl⟩ := List.getElem?_eq_some_iff.mp hz
    obtain ⟨_, rfl⟩ := List.getElem?_eq_some_iff.mp hy
    exact ⟨LinOrd.trans hzy, fun hxz => LinOrd.trans hxz hzy⟩
  · rw [hy] at hz
    cases hz
    exact ⟨id, id⟩

/-- Binary search never faults on a well-formed set and returns the position of
    the element with that key, or the insertion point that keeps the order. -/
theorem ASet.index_spec {key : α → κ} {P : Nat} {s : ASet α} (h : s.Inv key P) (x : κ) :
    (∃ i y, s.index key x = .ok (.found i) ∧ i < s.len ∧ s.vals[i]? = some y ∧ sameK (key y) x) ∨
    (∃ i, s.index key x = .ok (.absent i) ∧ i ≤ s.len ∧
        (∀ j y, j < i → s.vals[j]? = some y → key y < x) ∧
        (∀ j y, i ≤ j → j < s.len → s.vals[j]? = some y → x < key y)) := by
  have hr := ASet.indexP_run key s x
  cases hp : s.indexP key x with
  | error _ => rw [hp] at hr; exact absurd h.len_le (Nat.not_le.mpr hr)
  | ok rp =>
    obtain ⟨r, ps⟩ := rp
    rw [hp] at hr
    have hi : s.index key x = .ok r := ASet.index_ok_iff.mpr ⟨ps, hp⟩
    cases r with
    | found i =>
      obtain ⟨_, hil, y, hy⟩ := hr.found i rfl
      exact Or.inl ⟨i, y, hi, hil, hy⟩
    | absent i =>
      -- the two neighbours certify the insertion point; sortedness spreads them over the view
      obtain ⟨_, hil, hlo, hhi⟩ := hr.absent i rfl
      refine Or.inr ⟨i, hi, hil, fun j z hj hz => ?_, fun j z hij hj hz => ?_⟩
      · rcases hlo with rfl | ⟨y, hy, hyx⟩
        · omega
        · exact (h.key_le_of_le (by omega) (by omega) hz hy x).1 hyx
      · rcases hhi with rfl | ⟨y, hy, hxy⟩
        · omega
        · exact (h.key_le_of_le hij hj hy hz x).2 hxy

/-- A lookup in `n ≥ 1` elements compares with at most `⌊log2 n⌋ + 1` elements, none for the empty set. -/
theorem ASet.probe_bound (x : κ) {r : Idx} {ps : List Nat} (hi : s.indexP key x = .ok (r, ps)) :
    ps.length = 0 ∨ 2 ^ (ps.length - 1) ≤ s.len := by
  cases hk : ps.length with
  | zero => exact Or.inl rfl
  | succ k => exact Or.inr ((ASet.indexP_ok_run hi).probes_log k hk)

/-- Every probed position is inside the view. -/
theorem ASet.probes_in_view {key : α → κ} {P : Nat} {s : ASet α} (h : s.Inv key P) (x : κ)
    {r : Idx} {ps : List Nat} (hi : s.indexP key x = .ok (r, ps)) : ∀ p ∈ ps, p < s.len := by
  have _ := h
  exact fun p hp => ((ASet.indexP_ok_run hi).probes_in p hp).2

/-- The answer of `index` on a well-formed set as a cut of the view: `a` holds the smaller keys, `b` (after the
    element, if found) the larger ones, and the index is the length of `a`. -/
theorem ASet.Inv.index_cut (h : s.Inv key P) (k : κ) :
    (∃ a y b c, s = ASet.ofView (a ++ y :: b) c ∧ s.index key k = .ok (.found a.length) ∧ key y = k ∧
      (∀ z ∈ a, key z < k) ∧ (∀ z ∈ b, k < key z)) ∨
    (∃ a b c, s = ASet.ofView (a ++ b) c ∧ s.index key k = .ok (.absent a.length) ∧
      (∀ z ∈ a, key z < k) ∧ (∀ z ∈ b, k < key z)) := by
  have hl := h.view_length
  rcases ASet.index_spec h k with ⟨i, y, hidx, hi, hy, hsame⟩ | ⟨i, hidx, hi, hlo, hhi⟩
  · -- found: the element cuts the view, and sortedness puts the smaller keys before it, the larger after
    have hyv : s.view[i]? = some y := by rw [ASet.view, List.getElem?_take, if_pos hi]; exact hy
    obtain ⟨hiv, rfl⟩ := List.getElem?_eq_some_iff.mp hyv
    have hv : s.view = s.view.take i ++ s.view[i] :: s.view.drop (i + 1) := by
      rw [← List.drop_eq_getElem_cons hiv, List.take_append_drop]
    have hs := h.sorted
    rw [hv, ascK_append_cons, sameK_iff.mp hsame] at hs
    refine .inl ⟨_, _, _, _, h.eq_ofView.trans (congrArg (ASet.ofView · _) hv), ?_, sameK_iff.mp hsame,
      hs.2.1, hs.2.2⟩
    rw [List.length_take_of_le (by omega)]
    exact hidx
  · refine .inr ⟨s.view.take i, s.view.drop i, _,
      h.eq_ofView.trans (congrArg (ASet.ofView · _) (List.take_append_drop i _).symm), ?_,
      fun z hz => ?_, fun z hz => ?_⟩
    · rw [List.length_take_of_le (by omega)]
      exact hidx
    · obtain ⟨j, hj⟩ := List.mem_iff_getElem?.mp hz
      rw [List.getElem?_take] at hj
      split at hj
      · exact hlo j z (by assumption) (ASet.getElem?_view hj).2
      · cases hj
    · obtain ⟨j, hj⟩ := List.mem_iff_getElem?.mp hz
      rw [List.getElem?_drop] at hj
      obtain ⟨hjl, hjv⟩ := ASet.getElem?_view hj
      exact hhi (i + j) z (Nat.le_add_right _ _) hjl hjv

theorem ASet.Inv.isFull_iff (h : s.Inv key P) : s.isFull P = true ↔ s.len ≥ min s.slots P := by
  have := h.len_le
  simp only [ASet.isFull, Bool.or_eq_true, beq_iff_eq, decide_eq_true_eq]
  omega

theorem ASet.get_spec (h : s.Inv key P) (k : κ) :
    s.get key k = .ok (findK key k s.view) := by
  rcases h.index_cut k with ⟨a, y, b, c, rfl, hidx, hk, ha, _⟩ | ⟨a, b, c, rfl, hidx, ha, hb⟩
  · rw [ASet.view_ofView, findK_append_cons _ _ _ ha hk]
    simp only [ASet.get, hidx, ASet.getElem?_ofView_cut]
  · rw [ASet.view_ofView, findK_append_none _ _ ha hb]
    simp only [ASet.get, hidx]

/-- `insert`: never faults (in particular the raw copy stays inside the slice);
    refused (state unchanged) exactly for a present key or a full set; otherwise the view gains `x` at
    its sorted position and nothing else changes in it. -/
theorem ASet.insert_spec {key : α → κ} {P : Nat} {s : ASet α} (h : s.Inv key P) (x : α) :
    (((findK key (key x) s.view).isSome ∨ s.len ≥ min s.slots P) ∧ s.insert key P x = .ok (s, false)) ∨
    ((findK key (key x) s.view) = none ∧ s.len < min s.slots P ∧
      ∃ s', s.insert key P x = .ok (s', true) ∧ s'.Inv key P ∧ s'.view = insSorted key x s.view ∧
        s'.slots = s.slots ∧ s'.len = s.len + 1) := by
  by_cases hf : s.len ≥ min s.slots P
  · exact Or.inl ⟨Or.inr hf, by simp only [ASet.insert, h.isFull_iff.2 hf, if_true]⟩
  · have hnf : s.isFull P = false := Bool.eq_false_iff.2 (mt h.isFull_iff.1 hf)
    rcases h.index_cut (key x) with ⟨a, y, b, c, rfl, hidx, hk, ha, _⟩ | ⟨a, b, c, rfl, hidx, ha, hb⟩
    · exact Or.inl ⟨Or.inl (by rw [ASet.view_ofView, findK_append_cons _ _ _ ha hk]; rfl),
        by simp only [ASet.insert, hnf, hidx]; rfl⟩
    · have hsorted := (ASet.inv_ofView.1 h).2
      simp only [ASet.view_ofView, ASet.slots_ofView, ASet.len_ofView, List.length_append] at hf ⊢
      -- not full: there is a stale slot for the copy to run into
      obtain ⟨d, c, rfl⟩ : ∃ d c', c = d :: c' := by
        cases c with
        | nil => exact absurd (Nat.min_le_left _ _) hf
        | cons d c => exact ⟨d, c, rfl⟩
      have hlt := Nat.lt_of_not_le hf
      have hP : a.length + b.length < P := Nat.lt_of_lt_of_le hlt (Nat.min_le_right _ _)
      clear hf
      refine Or.inr ⟨findK_append_none a b ha hb, hlt, ASet.ofView (a ++ x :: b) c,
        ASet.insert_ofView (by rw [List.length_append]; exact hP) hidx,
        ASet.inv_ofView.2 ⟨by simp only [List.length_append, List.length_cons]; exact hP,
          (ascK_append_cons _ _ _).mpr ⟨hsorted, ha, hb⟩⟩, ?_⟩
      simp only [ASet.view_ofView, ASet.slots_ofView, ASet.len_ofView, List.length_append, List.length_cons,
        insSorted_append _ _ ha hb, true_and]
      omega

/-- `take`: never faults; returns the stored element with that key and removes only it. -/
theorem ASet.take_spec {key : α → κ} {P : Nat} {s : ASet α} (h : s.Inv key P) (k : κ) :
    (findK key k s.view = none ∧ s.take key k = .ok (s, none)) ∨
    (∃ y s', findK key k s.view = some y ∧ s.take key k = .ok (s', some y) ∧ s'.Inv key P ∧
        s'.view = eraseK key k s.view ∧ s'.slots = s.slots ∧ s'.len + 1 = s.len) := by
  rcases h.index_cut k with ⟨a, y, b, c, rfl, hidx, hk, ha, _⟩ | ⟨a, b, c, rfl, hidx, ha, hb⟩
  · obtain ⟨hP, hsorted⟩ := ASet.inv_ofView.1 h
    obtain ⟨e, htake⟩ := ASet.take_ofView hidx
    refine Or.inr ⟨y, _, by rw [ASet.view_ofView, findK_append_cons _ _ _ ha hk], htake,
      ASet.inv_ofView.2 ⟨?_, ((ascK_append_cons _ _ _).mp hsorted).1⟩, ?_⟩
    · simp only [List.length_append, List.length_cons] at hP ⊢
      omega
    · simp only [ASet.view_ofView, ASet.slots_ofView, ASet.len_ofView, List.length_append, List.length_cons,
        eraseK_append_cons _ _ _ ha hk, true_and]
      omega
  · refine Or.inl ⟨by rw [ASet.view_ofView, findK_append_none _ _ ha hb], ?_⟩
    unfold ASet.take
    split
    · rfl
    · rw [hidx]

theorem ASet.Inv.insert (h : s.Inv key P) (x : α) :
    ∃ s' r, s.insert key P x = .ok (s', r) ∧ s'.Inv key P ∧ s'.slots = s.slots := by
  rcases ASet.insert_spec h x with ⟨_, h1⟩ | ⟨_, _, s', h1, h2, _, h3, _⟩
  · exact ⟨s, false, h1, h, rfl⟩
  · exact ⟨s', true, h1, h2, h3⟩

theorem ASet.Inv.take (h : s.Inv key P) (k : κ) :
    ∃ s' r, s.take key k = .ok (s', r) ∧ s'.Inv key P ∧ s'.slots = s.slots := by
  rcases ASet.take_spec h k with ⟨_, h1⟩ | ⟨y, s', _, h1, h2, _, h3, _⟩
  · exact ⟨s, none, h1, h, rfl⟩
  · exact ⟨s', some y, h1, h2, h3⟩

theorem ASet.update_spec (h : s.Inv key P) (k : κ) (y' : α) :
    (findK key k s.view = none ∧ s.update key k y' = .ok (s, false)) ∨
    ((findK key k s.view).isSome ∧
      ∃ s', s.update key k y' = .ok (s', true) ∧ s'.view = setK key k y' s.view ∧
        s'.slots = s.slots ∧ s'.len = s.len ∧ (AscK (s'.view.map key) → s'.Inv key P)) := by
  rcases h.index_cut k with ⟨a, y, b, c, rfl, hidx, hk, ha, _⟩ | ⟨a, b, c, rfl, hidx, ha, hb⟩
  · have hP := (ASet.inv_ofView.1 h).1
    refine Or.inr ⟨by rw [ASet.view_ofView, findK_append_cons _ _ _ ha hk]; rfl, _, ASet.update_ofView hidx,
      ?_, ?_, ?_, fun hs => ASet.inv_ofView.2 ⟨?_, by rwa [ASet.view_ofView] at hs⟩⟩
    · rw [ASet.view_ofView, ASet.view_ofView, setK_append_cons _ _ _ _ ha hk]
    · simp only [ASet.slots_ofView, List.length_append, List.length_cons]
    · simp only [ASet.len_ofView, List.length_append, List.length_cons]
    · simpa only [List.length_append, List.length_cons] using hP
  · exact Or.inl ⟨by rw [ASet.view_ofView, findK_append_none _ _ ha hb], by simp only [ASet.update, hidx]⟩

theorem map_key_setK {k : κ} {y' : α} (hk : key y' = k) (l : List α) :
    (setK key k y' l).map key = l.map key := by
  induction l with
  | nil => rfl
  | cons z l ih =>
    by_cases hz : sameK (key z) k
    · simp only [setK, hz, if_true, List.map_cons]
      rw [hk, sameK_iff.mp hz]
    · simp only [setK, hz, if_false, List.map_cons, ih]

theorem ASet.update_same_key (h : s.Inv key P) (k : κ) (y' : α)
    (hk : sameK (key y') k) {s' : ASet α} (hu : s.update key k y' = .ok (s', true)) : s'.Inv key P := by
  rcases ASet.update_spec h k y' with ⟨_, h1⟩ | ⟨_, s'', h1, hview, _, _, hinv⟩
  · rw [h1] at hu
    cases hu
  · rw [h1] at hu
    cases hu
    exact hinv (by rw [hview, map_key_setK (sameK_iff.mp hk)]; exact h.sorted)

theorem ASet.opStep_refines (h : s.Inv key P) (op : ASOp α κ) :
    ∃ s', s.opStep key P op = .ok (s', (BSorted.step key (min s.slots P) s.view op).2) ∧ s'.Inv key P ∧
      s'.view = (BSorted.step key (min s.slots P) s.view op).1 ∧ s'.slots = s.slots := by
  have hvl := h.view_length
  cases op with
  | insert x =>
    simp only [ASet.opStep, BSorted.step, hvl]
    rcases ASet.insert_spec h x with ⟨hc, hins⟩ | ⟨hnone, hlt, s', hins, hinv, hview, hslots, _⟩
    · rw [if_pos hc, hins]
      exact ⟨s, rfl, h, rfl, rfl⟩
    · rw [if_neg (by rw [hnone]; exact fun hc => hc.elim nofun (Nat.not_le_of_lt hlt)), hins]
      exact ⟨s', rfl, hinv, hview, hslots⟩
  | take k =>
    simp only [ASet.opStep, BSorted.step]
    rcases ASet.take_spec h k with ⟨hnone, htake⟩ | ⟨y, s', hsome, htake, hinv, hview, hslots, _⟩
    · rw [hnone, htake]
      exact ⟨s, rfl, h, (eraseK_of_findK_none _ hnone).symm, rfl⟩
    · rw [hsome, htake]
      exact ⟨s', rfl, hinv, hview, hslots⟩
  | _ =>
    -- `get contains len`: the state stays; `get` answers as `findK` on the view, `contains` is defined through it
    refine ⟨s, ?_, h, rfl, rfl⟩
    simp only [ASet.opStep, ASet.contains, ASet.get_spec h, Except.map, BSorted.step, hvl]

theorem ASet.opRun_refines (h : s.Inv key P) (ops : List (ASOp α κ)) :
    ∃ s', s.opRun key P ops = .ok (s', (BSorted.run key (min s.slots P) s.view ops).2) ∧ s'.Inv key P ∧
      s'.view = (BSorted.run key (min s.slots P) s.view ops).1 := by
  induction ops generalizing s with
  | nil => exact ⟨s, rfl, h, rfl⟩
  | cons op ops ih =>
    obtain ⟨s1, hstep, hinv1, hview1, hslots1⟩ := ASet.opStep_refines h op
    obtain ⟨s2, hrun, hinv2, hview2⟩ := ih hinv1
    rw [hslots1, hview1] at hrun hview2
    refine ⟨s2, ?_, hinv2, ?_⟩
    · simp only [ASet.opRun, hstep, hrun, BSorted.run]
    · simp only [BSorted.run, hview2]

theorem ASet.inv_zero (key : α → κ) (P : Nat) (d : α) (n : Nat) :
    ({ len := 0, vals := List.replicate n d } : ASet α).Inv key P := by
  refine ⟨Nat.zero_le _, Nat.zero_le _, ?_⟩
  simp only [ASet.view, List.take_zero, List.map_nil]
  trivial

theorem ASet.extend_spec (h : s.Inv key P) (d : α) (n : Nat) :
    (s.extend d n).Inv key P ∧ (s.extend d n).view = s.view ∧ (s.extend d n).slots = s.slots + n ∧
    (s.extend d n).len = s.len := by
  have hview : (s.extend d n).view = s.view := List.take_append_of_le_length h.len_le
  have hslots : (s.extend d n).slots = s.slots + n := by
    simp only [ASet.extend, ASet.slots, List.length_append, List.length_replicate]
  refine ⟨⟨?_, h.len_leP, ?_⟩, hview, hslots, rfl⟩
  · rw [hslots]
    exact Nat.le_trans h.len_le (Nat.le_add_right _ _)
  · rw [hview]
    exact h.sorted

end Lemmas

/-- States reachable from a zero-filled buffer by insert / take / order-preserving update / growth. -/
inductive ASet.Reach {κ : Type} [LinOrd κ] (key : α → κ) (P : Nat) (d : α) : ASet α → Prop where
  | zero (n : Nat) : ASet.Reach key P d { len := 0, vals := List.replicate n d }
  | insert {s s' : ASet α} (x : α) (r : Bool) (hr : ASet.Reach key P d s) (hs : s.insert key P x = .ok (s', r)) :
      ASet.Reach key P d s'
  | take {s s' : ASet α} (k : κ) (r : Option α) (hr : ASet.Reach key P d s) (hs : s.take key k = .ok (s', r)) :
      ASet.Reach key P d s'
  | update {s s' : ASet α} (k : κ) (y : α) (hk : sameK (key y) k) (hr : ASet.Reach key P d s)
      (hs : s.update key k y = .ok (s', true)) : ASet.Reach key P d s'
  | extend {s : ASet α} (n : Nat) (hr : ASet.Reach key P d s) : ASet.Reach key P d (s.extend d n)

theorem ASet.reach_inv {κ : Type} [LinOrd κ] {key : α → κ} {P : Nat} {d : α} {s : ASet α}
    (h : ASet.Reach key P d s) : s.Inv key P := by
  induction h with
  | zero n => exact ASet.inv_zero key P d n
  | insert x r hr hs ih => exact (Except.of_ok₂ (ih.insert x) hs).1
  | take k r hr hs ih => exact (Except.of_ok₂ (ih.take k) hs).1
  | update k y hk hr hs ih => exact ASet.update_same_key ih k y hk hs
  | extend n hr ih => exact (ASet.extend_spec ih d n).1

end Stevia
