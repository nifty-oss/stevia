/-
  Stevia.Proofs.GenTreeStep — the translated source of both tree files simulates the functional model over whole
  histories: once for any four functions with the bridges of `from_bytes_mut`, `insert`, `remove`, `get_mut`, then per
  file from the translated `initialize` on a zero-filled buffer.
-/
import Stevia.Proofs.GenTreeRefine

namespace Stevia
variable {α β : Type} [LinOrd α]

namespace GenTree
open Imp
variable {c : TreeCfg}

section
variable (opn : Rec α β → TreeImage α β → TreeImage α β)
  (ins : Rec α β → TreeImage α β → α → β → Option (TreeImage α β × Option Nat))
  (rem : Rec α β → TreeImage α β → α → Option (TreeImage α β × Option β))
  (gmut : Rec α β → TreeImage α β → α → Option (TreeImage α β × Option Nat))

/-- `Gen32.stepImg` / `Gen8.stepImg` (below, one per file; `C01.translated_history_*` are stated with them) as a
    function of the four translated functions they call: the same body a third time, equal to each of them by
    `cases op <;> rfl`. -/
def stepImg (d : Rec α β) (m : TreeImage α β) : TreeOp α β → Option (TreeImage α β)
  | .insert k v => (ins d (opn d m) k v).map (·.1)
  | .remove k => (rem d (opn d m) k).map (·.1)
  | .update k v => (gmut d (opn d m) k).map fun r =>
      match r.2 with
      | none => r.1
      | some i => Imp.wr r.1 i fun rc => { rc with val := v }
  | .reopen => some (opn d m)
  | .extend n => some { m with recs := m.recs ++ List.replicate n d }

variable {opn ins rem gmut} {find : Rec α β → TreeImage α β → α → Option (Option Nat)}
  {contains : Rec α β → TreeImage α β → α → Option Bool}
  {lowest : Rec α β → TreeImage α β → Option (Option α)}
  (B : Bridges c opn ins rem gmut find contains lowest)
include B

theorem step_refines (kd : α) (vd : β) (s : Tree α β) (h : Tree.Reach c s) (op : TreeOp α β) (hok : op.ok c s) :
    ∃ s', s.step c op = .ok s' ∧ Tree.Reach c s' ∧
      stepImg opn ins rem gmut (Imp.dflt kd vd) (s.image c kd vd) op = some (s'.image c kd vd) := by
  have hinv := Tree.reach_inv h
  cases op with
  | insert k v =>
    obtain ⟨s', r, hr, hs, he⟩ := transition_insert B kd vd s h k v
    exact ⟨s', by simp [Tree.step, hs, Except.map], hr, by simp only [stepImg, he, Option.map_some]⟩
  | remove k =>
    obtain ⟨s', r, hr, hs, he⟩ := transition_remove B kd vd s h k
    exact ⟨s', by simp [Tree.step, hs, Except.map], hr, by simp only [stepImg, he, Option.map_some]⟩
  | update k v =>
    refine ⟨((s.openMut c).update k v).1, rfl, Tree.Reach.step (TreeOp.update k v) h trivial rfl, ?_⟩
    have hi' := Tree.inv_openMut hinv
    have hu := get_mut_refines B kd vd _ hi' k v
    rw [stepImg, from_bytes_mut_refines B kd vd s]
    rw [get_mut_image B kd vd _ hi' k] at hu ⊢
    generalize Imp.find (Imp.dflt kd vd) _ k _ _ = place at hu ⊢
    cases place <;> exact congrArg (Option.map Prod.fst) hu
  | reopen =>
    exact ⟨s.openMut c, rfl, Tree.Reach.step TreeOp.reopen h trivial rfl, by
      simp only [stepImg, from_bytes_mut_refines B kd vd s]⟩
  | extend n =>
    exact ⟨s.extend n, rfl, Tree.Reach.step (TreeOp.extend n) h hok rfl, by
      simp only [stepImg, Tree.image_extend c kd vd s hinv n]⟩

/-- `stp`, `run` are `Gen32.stepImg`, `Gen32.runImg` or their `Gen8` twins, known here by their defining equations. -/
theorem run_refines {stp : Rec α β → TreeImage α β → TreeOp α β → Option (TreeImage α β)}
    {run : Rec α β → TreeImage α β → List (TreeOp α β) → Option (TreeImage α β)}
    (hstp : ∀ d m op, stp d m op = stepImg opn ins rem gmut d m op) (hnil : ∀ d m, run d m [] = some m)
    (hcons : ∀ d m op ops, run d m (op :: ops) = (stp d m op).bind fun m' => run d m' ops)
    (kd : α) (vd : β) (s s' : Tree α β) (ops : List (TreeOp α β)) (h : Tree.Reach c s)
    (hs : Tree.Steps c s ops s') :
    Tree.Reach c s' ∧ run (Imp.dflt kd vd) (s.image c kd vd) ops = some (s'.image c kd vd) := by
  induction hs with
  | nil => exact ⟨h, hnil _ _⟩
  | cons op hok hstep _ ih =>
    obtain ⟨s1, h1, hr1, he1⟩ := step_refines B kd vd _ h op hok
    rw [hstep] at h1
    cases h1
    obtain ⟨hr, he⟩ := ih hr1
    exact ⟨hr, by rw [hcons, hstp, he1, Option.bind_some, he]⟩

end
end GenTree

namespace Gen32

omit [LinOrd α] in
/-- The proof is the unfolding of `initialize_tree`, `alloc_initialize` and `Id.run` into the header literal of
    `Tree.image_init`, done by the type checker: a source change to `initialize` shows here.  (Here and not in
    GenTreeAlloc, where `initialize_tree` is translated: the statement needs `Tree.init` and its layout.) -/
theorem initialize_zero (kd : α) (vd : β) (n cap : Nat) :
    initialize_tree (Imp.dflt kd vd) ((Tree.zero n : Tree α β).image cfgU32 kd vd) cap
      = (Tree.init n cap : Tree α β).image cfgU32 kd vd :=
  Tree.image_init cfgU32 (by decide) kd vd n cap

/-- One operation of the translated source on an image, through a fresh handle (`from_bytes_mut`), as the crate is
    used; `extend` is the caller appending zero-filled records to the buffer. -/
def stepImg (d : Rec α β) (m : TreeImage α β) : TreeOp α β → Option (TreeImage α β)
  | .insert k v => (insert d (from_bytes_mut d m) k v).map (·.1)
  | .remove k => (remove d (from_bytes_mut d m) k).map (·.1)
  | .update k v => (get_mut d (from_bytes_mut d m) k).map fun r =>
      match r.2 with
      | none => r.1
      | some i => Imp.wr r.1 i fun rc => { rc with val := v }
  | .reopen => some (from_bytes_mut d m)
  | .extend n => some { m with recs := m.recs ++ List.replicate n d }

def runImg (d : Rec α β) : TreeImage α β → List (TreeOp α β) → Option (TreeImage α β)
  | m, [] => some m
  | m, op :: ops => (stepImg d m op).bind fun m' => runImg d m' ops

/-- From a zero-filled buffer: `initialize(cap)`, then any history of the model, each operation through a fresh
    handle, ends in the layout of the model's end state. -/
theorem run_from_zero (kd : α) (vd : β) (n cap : Nat) (h1 : cap ≤ n) (h2 : n < 4294967295) (s' : Tree α β)
    (ops : List (TreeOp α β)) (hs : Tree.Steps cfgU32 (Tree.init n cap) ops s') :
    runImg (Imp.dflt kd vd)
      (initialize_tree (Imp.dflt kd vd) ((Tree.zero n : Tree α β).image cfgU32 kd vd) cap) ops
      = some (s'.image cfgU32 kd vd) := by
  rw [initialize_zero kd vd n cap]
  exact (GenTree.run_refines bridges (fun _ _ op => by cases op <;> rfl)
    (fun _ _ => rfl) (fun _ _ _ _ => rfl) kd vd _ s' ops (Tree.Reach.init n cap h1 (Nat.le_of_lt h2) (Or.inr h2)) hs).2

end Gen32

namespace Gen8

omit [LinOrd α] in
theorem initialize_zero (kd : α) (vd : β) (n cap : Nat) :
    initialize_tree (Imp.dflt kd vd) ((Tree.zero n : Tree α β).image cfgU8 kd vd) cap
      = (Tree.init n cap : Tree α β).image cfgU8 kd vd :=
  Tree.image_init cfgU8 (by decide) kd vd n cap

def stepImg (d : Rec α β) (m : TreeImage α β) : TreeOp α β → Option (TreeImage α β)
  | .insert k v => (insert d (from_bytes_mut d m) k v).map (·.1)
  | .remove k => (remove d (from_bytes_mut d m) k).map (·.1)
  | .update k v => (get_mut d (from_bytes_mut d m) k).map fun r =>
      match r.2 with
      | none => r.1
      | some i => Imp.wr r.1 i fun rc => { rc with val := v }
  | .reopen => some (from_bytes_mut d m)
  | .extend n => some { m with recs := m.recs ++ List.replicate n d }

def runImg (d : Rec α β) : TreeImage α β → List (TreeOp α β) → Option (TreeImage α β)
  | m, [] => some m
  | m, op :: ops => (stepImg d m op).bind fun m' => runImg d m' ops

theorem run_from_zero (kd : α) (vd : β) (n cap : Nat) (h1 : cap ≤ n) (h2 : n ≤ 255) (s' : Tree α β)
    (ops : List (TreeOp α β)) (hs : Tree.Steps cfgU8 (Tree.init n cap) ops s') :
    runImg (Imp.dflt kd vd)
      (initialize_tree (Imp.dflt kd vd) ((Tree.zero n : Tree α β).image cfgU8 kd vd) cap) ops
      = some (s'.image cfgU8 kd vd) := by
  rw [initialize_zero kd vd n cap]
  exact (GenTree.run_refines bridges (fun _ _ op => by cases op <;> rfl)
    (fun _ _ => rfl) (fun _ _ _ _ => rfl) kd vd _ s' ops (Tree.Reach.init n cap h1 h2 (Or.inl rfl)) hs).2

end Gen8

end Stevia
