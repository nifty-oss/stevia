/-
  Stevia.Proofs.GenHSet — translator output for `hash_set.rs` (`Stevia.GenH.*`) = literal model `Stevia.HImp.*`, as
  equalities of functions without hypotheses; `none` exactly where the chain scan of `contains`, `insert`, `remove`
  neither leaves by its own condition nor finds the value within the fuel (`HImp.scanT`).
-/
import Stevia.Generated.HSet
import Stevia.Proofs.GenLemmas
import Stevia.Model.HashSetImpTerm
import Stevia.Proofs.HashSetImpMem

namespace Stevia
open HImp
variable {β : Type}
-- The scripts list simp lemmas for every shape of the source they accept; on any one source some are unused.
set_option linter.unusedSimpArgs false

namespace GenH

section
variable [DecidableEq β]
set_option linter.unusedSectionVars false

theorem capacity_eq (hash : β → Nat) (d : HRec β) (m : HImage β) : capacity hash d m = m.hdr.cap := rfl
theorem size_eq (hash : β → Nat) (d : HRec β) (m : HImage β) : size hash d m = m.hdr.size := rfl
theorem is_full_eq (hash : β → Nat) (d : HRec β) (m : HImage β) :
    is_full hash d m = decide (m.hdr.size ≥ m.hdr.cap) := rfl
theorem is_empty_eq (hash : β → Nat) (d : HRec β) (m : HImage β) :
    is_empty hash d m = decide (m.hdr.size = 0) := rfl

end

theorem add_node_eq (hash : β → Nat) (d : HRec β) (m : HImage β) (v : β) :
    add_node hash d m v = HImp.addNode d m v := by
  simp only [add_node, HImp.addNode]
  -- (the capacity test may be an `if .. { panic! }` or an `assert!` of its negation)
  by_cases h1 : m.hdr.flh = m.hdr.seq
  · simp only [h1, if_true, eq_self]
    by_cases h2 : m.hdr.seq - 1 = m.hdr.cap
    · simp only [h2, ne_eq, not_true_eq_false, not_false_eq_true, Decidable.not_not, if_true, if_false, eq_self]
      first | done | rfl
    · simp only [h2, ne_eq, not_true_eq_false, not_false_eq_true, Decidable.not_not, if_true, if_false, bind, Option.bind,
        pure, HImp.wr_wr]
      first | done | rfl
  · simp only [h1, bind, Option.bind, pure, if_false, HImp.wr_wr]
    rfl

theorem remove_node_eq (hash : β → Nat) (d : HRec β) (m : HImage β) (i : Nat) :
    remove_node hash d m i = if i = 0 then (m, none) else (HImp.removeNode d m i, some (rd d m i).val) := by
  simp only [remove_node, HImp.removeNode, Id.run, bind, pure, HImp.wr_wr, HImp.wr_hdr]
  split <;> rfl

variable [DecidableEq β]

theorem contains_eq (hash : β → Nat) (d : HRec β) (m : HImage β) (v : β) :
    contains hash d m v =
      if m.hdr.size = 0 ∨ HImp.scanT d m v (m.recs.length + 1) (rdB d m (bucketIndex hash m v)).bucket = true
      then some (HImp.contains hash d m v) else none := by
  unfold contains HImp.contains
  simp only [forIn, is_empty_eq, bucketIndex, decide_eq_true_eq]
  by_cases h0 : m.hdr.size = 0
  · simp only [h0, true_or, if_true]; rfl
  · simp only [h0, false_or, if_false]
    generalize m.recs.length + 1 = fuel
    generalize (rdB d m (hash v % 4294967296 % m.hdr.cap)).bucket = cur
    induction fuel generalizing cur with
    | zero => rfl
    | succ n ih =>
      simp only [Fuel.forIn]
      rw [scan, HImp.scanT]
      obtain ⟨_, e⟩ | ⟨_, e⟩ := Decidable.verdict (cur = 0) <;> rw [e]
      · rfl
      obtain ⟨_, e⟩ | ⟨_, e⟩ := Decidable.verdict ((rd d m cur).val = v) <;> rw [e]
      · rfl
      · exact ih _

theorem insert_eq (hash : β → Nat) (d : HRec β) (m : HImage β) (v : β) :
    insert hash d m v =
      if m.hdr.size = m.hdr.cap ∨ HImp.scanT d m v (m.recs.length + 1) (rdB d m (bucketIndex hash m v)).bucket = true
      then HImp.insertO hash d m v else none := by
  unfold insert HImp.insertO
  -- `rw`, not `simp only`: the unfolding holds by `rfl`, and `simp only` would leave the folded form inside the
  -- `Decidable` instances, after which the scan's start cannot be generalized
  rw [bucketIndex]
  simp only [forIn, size_eq, capacity_eq, add_node_eq]
  by_cases h0 : m.hdr.size = m.hdr.cap
  · simp only [h0, true_or, if_true]; rfl
  · simp only [h0, false_or, if_false]
    generalize m.recs.length + 1 = fuel
    generalize (rdB d m (hash v % 4294967296 % m.hdr.cap)).bucket = head
    -- the scan position varies, `head` (linked behind the new record afterwards) does not
    refine (?_ : ∀ n cur, (Fuel.forIn _ n (none, cur, false) >>= _) =
      if HImp.scanT d m v n cur = true then
        if scan d m v n cur = true then some (m, false)
        else (HImp.addNode d m v).map fun r =>
          (wr (wrB r.1 (hash v % 4294967296 % m.hdr.cap) fun x => { x with bucket := r.2 }) r.2
            fun x => { x with next := head }, true)
      else none) fuel head
    intro n
    induction n with
    | zero => intro cur; rfl
    | succ n ih =>
      intro cur
      simp only [Fuel.forIn]
      rw [scan, HImp.scanT]
      obtain ⟨_, e⟩ | ⟨_, e⟩ := Decidable.verdict (cur = 0) <;> rw [e]
      · cases HImp.addNode d m v <;> rfl
      obtain ⟨_, e⟩ | ⟨_, e⟩ := Decidable.verdict ((rd d m cur).val = v) <;> rw [e]
      · rfl
      · exact ih _

theorem remove_eq (hash : β → Nat) (d : HRec β) (m : HImage β) (v : β) :
    remove hash d m v =
      if m.hdr.size = 0 ∨ HImp.scanT d m v (m.recs.length + 1) (rdB d m (bucketIndex hash m v)).bucket = true
      then some (HImp.remove hash d m v) else none := by
  unfold remove HImp.remove
  rw [bucketIndex]
  simp only [forIn, is_empty_eq, decide_eq_true_eq, remove_node_eq]
  by_cases h0 : m.hdr.size = 0
  · simp only [h0, true_or, if_true]; rfl
  · simp only [h0, false_or, if_false]
    generalize m.recs.length + 1 = fuel
    generalize (rdB d m (hash v % 4294967296 % m.hdr.cap)).bucket = head
    refine (?_ : ∀ n cur prev, (Fuel.forIn _ n (none, m, cur, prev, false) >>= _) =
      if HImp.scanT d m v n cur = true then some (removeScan d m v (hash v % 4294967296 % m.hdr.cap) n cur prev)
      else none) fuel head 0
    intro n
    induction n with
    | zero => intro cur prev; rfl
    | succ n ih =>
      intro cur prev
      rw [removeScan, HImp.scanT]
      simp only [Fuel.forIn]
      obtain ⟨_, e⟩ | ⟨_, e⟩ := Decidable.verdict (cur = 0) <;> rw [e]
      · rfl
      obtain ⟨_, e⟩ | ⟨_, e⟩ := Decidable.verdict ((rd d m cur).val = v) <;> rw [e]
      · obtain ⟨_, e⟩ | ⟨_, e⟩ := Decidable.verdict (prev = 0) <;> rw [e] <;> rfl
      · exact ih _ _
end GenH
end Stevia
