/-
  Stevia.Proofs.TreeImpEq — the literal model (`Stevia.Model.TreeImp`) computes, on the layout of every well-formed
  state, exactly the layout of what the functional model (`Stevia.Model.Tree`) computes, with the same result.
  `remove` has a file of its own, `TreeImpRemove`.
-/
import Stevia.Proofs.TreeImpInsert

namespace Stevia
variable {α β : Type}

theorem lowestGo_rep (d : Rec α β) (hdr : Hdr) {n : Nat} {f : Nat → Rec α β} :
    ∀ (l : T α β) (i : Nat) (k : α) (v : β) (h : Nat) (r : T α β) (fuel : Nat),
      Own n f (.node i l k v h r) → (T.node i l k v h r).height ≤ fuel + 1 →
      some (Imp.rd d (mkImg hdr n f) (Imp.lowestGo d (mkImg hdr n f) fuel i)).key =
        (T.node i l k v h r).minKey := by
  intro l
  induction l with
  | nil =>
    intro i k v h r fuel ho _
    cases fuel with
    | zero => simp [Imp.lowestGo, T.minKey, ho.rd d hdr, T.rc]
    | succ fuel => simp [Imp.lowestGo, T.minKey, ho.rd d hdr, T.rc, T.slot]
  | node li ll lk lv lh lr ihl _ =>
    intro i k v h r fuel ho hf
    simp only [T.height] at hf
    obtain ⟨fuel, rfl⟩ : ∃ f', fuel = f' + 1 := ⟨fuel - 1, by omega⟩
    simp only [Imp.lowestGo, ho.rd d hdr, T.rc, T.slot, T.minKey]
    rw [if_pos ho.left.slot_ne_zero]
    exact ihl li lk lv lh lr fuel ho.left (by simp only [T.height]; omega)

variable [LinOrd α]

theorem Imp.find_eq (c : TreeCfg) (kd : α) (vd : β) (s : Tree α β) (h : s.Inv c) (k : α) :
    Imp.find (Imp.dflt kd vd) (s.image c kd vd) k (s.slots + 1) s.root.slot = (s.root.find k).map (·.1) :=
  have ⟨_, hfind, _⟩ := search_image c kd vd s h k
  hfind

theorem Imp.lowest_eq (c : TreeCfg) (kd : α) (vd : β) (s : Tree α β) (h : s.Inv c) :
    Imp.lowest (Imp.dflt kd vd) (s.image c kd vd) = s.lowest := by
  unfold Imp.lowest Tree.lowest
  rw [Tree.image_recs_length, Tree.image_eq_mkImg]
  have ho := h.own kd vd
  have hht := h.height_le
  cases hroot : s.root with
  | nil => simp [Tree.hdr, hroot, T.slot, T.minKey]
  | node i l k v hh r =>
    rw [hroot] at ho hht
    simp only [mkImg_hdr, Tree.hdr, hroot, T.slot]
    rw [if_neg ho.slot_ne_zero]
    exact lowestGo_rep _ _ l i k v hh r _ ho (by omega)

omit [LinOrd α] in
theorem Imp.openMut_eq (c : TreeCfg) (kd : α) (vd : β) (s : Tree α β) :
    Imp.openMut c (s.image c kd vd) = (s.openMut c).image c kd vd := by
  unfold Imp.openMut Tree.openMut
  rw [Tree.image_recs_length]
  show (if s.slots > s.cap then _ else _) = _
  split <;> rfl

theorem rep_setVal {n : Nat} {f : Nat → Rec α β} (key : α) (val : β) :
    ∀ (t : T α β) (i : Nat) (v0 : β), Own n f t → t.find key = some (i, v0) →
      Rep (upd f i { f i with val := val }) (t.setVal key val) := by
  intro t
  induction t with
  | nil => intro i v0 _ h; simp [T.find] at h
  | node j l k' v' hh r ihl ihr =>
    intro i v0 ho hf
    have hd := Valid.node (fr := ⟨j, k', v', hh, false, r⟩) (h := hh) (t := l) ho.valid
    simp only [T.find] at hf
    simp only [T.setVal]
    split
    · rename_i hlt
      rw [if_pos hlt] at hf
      have hm := T.find_mem_slots hf
      refine ⟨?_, ihl i v0 ho.left hf, ho.rep.right.upd_of_not_mem _ (hd.disj i hm)⟩
      rw [upd_ne _ _ (fun e : j = i => hd.notin_hole (e ▸ hm)), ho.at_root]
      simp [T.rc, T.slot_setVal]
    · rename_i hlt
      rw [if_neg hlt] at hf
      split
      · rename_i hgt
        rw [if_pos hgt] at hf
        have hm := T.find_mem_slots hf
        refine ⟨?_, ho.rep.left.upd_of_not_mem _ (fun h' => hd.disj i h' hm), ihr i v0 ho.right hf⟩
        rw [upd_ne _ _ (fun e : j = i => hd.notin_sib (e ▸ hm)), ho.at_root]
        simp [T.rc, T.slot_setVal]
      · rename_i hgt
        rw [if_neg hgt] at hf
        cases hf
        refine ⟨?_, ho.rep.left.upd_of_not_mem _ hd.notin_hole, ho.rep.right.upd_of_not_mem _ hd.notin_sib⟩
        rw [upd_same, ho.at_root]
        rfl

theorem Imp.update_eq (c : TreeCfg) (kd : α) (vd : β) (s : Tree α β) (h : s.Inv c) (k : α) (v : β) :
    Imp.update (Imp.dflt kd vd) (s.image c kd vd) k v = (((s.update k v).1).image c kd vd, (s.update k v).2) := by
  have hfind := Imp.find_eq c kd vd s h k
  unfold Imp.update Tree.update
  rw [Tree.image_recs_length]
  show (match Imp.find _ _ k (s.slots + 1) s.root.slot with | none => _ | some i => _) = _
  rw [hfind]
  cases hf : s.root.find k with
  | none => rfl
  | some p =>
    obtain ⟨i, v0⟩ := p
    simp only [Option.map_some]
    congr 1
    rw [Tree.image_eq_mkImg, wr_mkImg]
    have hrep := rep_setVal k v s.root i v0 (h.own kd vd) hf
    have hm := T.find_mem_slots hf
    have hh : Tree.hdr c { s with root := s.root.setVal k v } = Tree.hdr c s := by
      unfold Tree.hdr
      rw [T.slot_setVal]
      rfl
    rw [← hh]
    exact mkImg_eq_image c kd vd { s with root := s.root.setVal k v } _
      (by rw [T.slots_setVal]; exact h.rootNodup) hrep (by
        intro j hj
        have hj' : j ∉ s.root.slots := by rwa [T.slots_setVal] at hj
        rw [upd_ne _ _ (fun e : j = i => hj' (e ▸ hm))]
        exact Tree.recAt_congr_free c kd vd hj hj' rfl)

theorem Imp.insertO_eq (c : TreeCfg) (kd : α) (vd : β) (s s' : Tree α β) (h : s.Inv c) (k : α) (v : β)
    (r : Option Nat) (hi : s.insert c k v = .ok (s', r)) :
    Imp.insertO c (Imp.dflt kd vd) (s.image c kd vd) k v = some (s'.image c kd vd, r) := by
  have ho := h.own kd vd
  have hfullEq : Imp.isFull (s.image c kd vd) = s.isFull := rfl
  unfold Tree.insert at hi
  unfold Imp.insertO
  simp only [Tree.image_hdr_root, hfullEq, Tree.image_recs_length]
  by_cases hfull : s.isFull = true
  · -- a full tree refuses, whatever the search finds
    rw [if_pos hfull, ite_self] at hi
    cases hi
    simp only [if_pos hfull]
    split
    · rfl
    · split <;> rfl
  · have hnf : s.size < s.cap := by simpa [Tree.isFull] using hfull
    obtain ⟨i, fl, sq, hal, ha⟩ : ∃ i fl sq, Slots.Alloc s.free s.seq i fl sq ∧
        s.alloc c = .ok ({ s with free := fl, size := s.size + 1, seq := sq }, i) :=
      ⟨_, _, _, Slots.Alloc.head s.free s.seq, Tree.alloc_eq h hnf⟩
    simp only [if_neg hfull, ha, Imp.add_eq kd vd h hnf hal, Option.map_some] at hi ⊢
    by_cases hroot : s.root = .nil
    · simp only [hroot, T.slot_nil, if_true, T.find, Option.isSome_none, Bool.false_eq_true, if_false] at hi ⊢
      cases hi
      exact congrArg (fun x => some (x, some i)) (finish_insert kd vd h hnf hal (t' := T.node i .nil k v 0 .nil)
        (by rw [hroot]; rfl) ⟨by simp [T.rc], trivial, trivial⟩ (agree_upd _ _ (by simp)))
    · rw [if_neg (mt ho.slot_eq_zero.1 hroot), (insertDescend_image c kd vd s h k hroot).2]
      have hfind := T.find_eq_focus k s.root
      cases hfoc : s.root.focus k with
      | node =>
        rw [hfoc] at hfind
        simp only [hfind, Option.isSome_some, if_true] at hi ⊢
        cases hi; rfl
      | nil =>
        rw [hfoc] at hfind
        simp only [hfind, Option.isSome_none, Bool.false_eq_true, if_false] at hi ⊢
        cases hi
        have hplug : plug (s.root.descend k []) .nil = s.root := hfoc ▸ T.plug_descend k s.root []
        obtain ⟨fr, ctx, hd⟩ : ∃ fr ctx, s.root.descend k [] = fr :: ctx := by
          cases hd : s.root.descend k [] with
          | nil => rw [hd] at hplug; exact absurd hplug.symm hroot
          | cons fr ctx => exact ⟨fr, ctx, rfl⟩
        rw [hd] at hplug
        simp only [hd, List.head?_cons, Option.map_some]
        refine congrArg (fun x => some (x, some i)) ?_
        -- the zipper in memory, the new leaf in its hole
        have hz := (hplug ▸ ho).zip (fr :: ctx) .nil
        have hup : up (fr :: ctx) (.node i .nil k v 0 .nil) = s.root.ins i k v :=
          hd ▸ T.up_descend i k v s.root [] hfind
        have hp : ((T.node i .nil k v 0 .nil : T α β).slots ++ slotsC (fr :: ctx)).Perm (i :: s.root.slots) :=
          (slots_up_perm _ _).symm.trans (hup ▸ T.slots_ins_perm h.bst i k v hfind)
        have hv1 := (h.alloc_valid hnf hal).perm hp
        have a1 : Agree [i] (upd (s.recAt c kd vd) i ⟨0, 0, 0, 0, k, v⟩) (s.recAt c kd vd) :=
          agree_upd _ _ (by simp)
        obtain ⟨f2, e2, hz2, a2⟩ := RepCtx.relink (Imp.dflt kd vd)
          (({ s with free := fl, seq := sq, size := s.size + 1 } : Tree α β).hdr c) (t := T.node i .nil k v 0 .nil)
          (hz.repCtx.agree₁ a1 (hv1.disjoint i (by simp)))
          ⟨upd_same _ _ _, trivial, trivial⟩ hv1
        obtain ⟨f3, e3, r3, a3⟩ := rebalance_loop (Imp.dflt kd vd)
          (({ s with free := fl, seq := sq, size := s.size + 1 } : Tree α β).hdr c) (fr :: ctx) f2 _ hz2
          (by show s.root.slot = rootSlot (fr :: ctx) (T.nil : T α β).slot; rw [← slot_plug, hplug])
        rw [T.slot_node] at e2
        rw [hup] at e3 r3
        rw [e2, e3]
        exact finish_insert kd vd h hnf hal (T.slots_ins_perm h.bst i k v hfind) r3
          ((a3.trans ((a2.mono₁ (by simp)).trans (a1.mono₁ (by simp)))).mono fun j hj => hp.mem_iff.1 hj)

theorem Imp.insert_eq (c : TreeCfg) (kd : α) (vd : β) (s s' : Tree α β) (h : s.Inv c) (k : α) (v : β)
    (r : Option Nat) (hi : s.insert c k v = .ok (s', r)) :
    Imp.insert c (Imp.dflt kd vd) (s.image c kd vd) k v = (s'.image c kd vd, r) := by
  rw [← Imp.insertO_getD, Imp.insertO_eq c kd vd s s' h k v r hi]
  rfl

end Stevia
