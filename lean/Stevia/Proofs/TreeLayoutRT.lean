/-
  Stevia.Proofs.TreeLayoutRT — layout/decoder round trip at register level:
  the independent decoder applied to the layout of a state rebuilds that state.
-/
import Stevia.Proofs.TreeAvl
import Stevia.Proofs.SlotAlloc

namespace Stevia
variable {α β : Type}

/-- What the register layout needs of a state to be decodable: distinct
    in-range slots, a free list that does not contain the terminator, and a
    cursor that is recoverable from its register.
    The same duplicate-free slots are bounded three ways in the development: by the cursor in the invariant
    (`Slots.Ok`, `< seq`: what allocation maintains), by the record count here (`≤ s.slots`: what indexing the
    buffer needs; `Tree.Inv.layoutOk` gets it from `seq ≤ cap + 1 ≤ slots + 1`), and, for the slots of the tree
    alone, as `Valid n` in the proofs about the literal model. -/
structure Tree.LayoutOk (c : TreeCfg) (s : Tree α β) : Prop where
  nodup : (s.root.slots ++ s.free).Nodup
  range : ∀ i ∈ s.root.slots ++ s.free, 1 ≤ i ∧ i ≤ s.slots
  free_ne : ∀ i ∈ s.free, i ≠ s.seqReg c
  seq_ok : TreeImage.seqOfReg c s.cap (s.seqReg c) = s.seq

namespace T

theorem sub_none {i : Nat} {t : T α β} (h : i ∉ t.slots) : t.sub i = none := by
  induction t with
  | nil => rfl
  | node j l k v hh r ihl ihr =>
    simp only [slots_node, List.mem_append, List.mem_cons, not_or] at h
    simp [sub, h.2.1, ihl h.1, ihr h.2.2]

theorem height_le_length_slots (t : T α β) : t.height ≤ t.slots.length := by
  induction t with
  | nil => simp [height]
  | node j l k v hh r ihl ihr => simp [height]; omega

/-- `n`, the number of records: the fuel of every walk. -/
theorem height_le_of_nodup_range {n : Nat} {t : T α β} (hnd : t.slots.Nodup)
    (hr : ∀ i ∈ t.slots, 1 ≤ i ∧ i ≤ n) : t.height ≤ n :=
  Nat.le_trans (height_le_length_slots t) (length_le_of_nodup_range n _ hnd hr)

/-- Subtree by position.  `T.sub i` is the lookup by slot; the two agree when the slots are distinct
    (`isSub_of_sub`, `sub_of_isSub`). -/
inductive IsSub : T α β → T α β → Prop
  | refl (t : T α β) : IsSub t t
  | left {t' : T α β} {i : Nat} {l : T α β} {k : α} {v : β} {h : Nat} {r : T α β} :
      IsSub t' l → IsSub t' (node i l k v h r)
  | right {t' : T α β} {i : Nat} {l : T α β} {k : α} {v : β} {h : Nat} {r : T α β} :
      IsSub t' r → IsSub t' (node i l k v h r)

variable {t t' : T α β}

theorem IsSub.trans {a b c : T α β} (h1 : IsSub a b) (h2 : IsSub b c) : IsSub a c := by
  induction h2 with
  | refl => exact h1
  | left _ ih => exact .left ih
  | right _ ih => exact .right ih

theorem IsSub.slot_mem (h : IsSub t' t) (hne : t' ≠ nil) :
    t'.slot ∈ t.slots := by
  induction h with
  | refl => cases t' with
    | nil => exact absurd rfl hne
    | node => simp [slot]
  | left _ ih => simp [ih]
  | right _ ih => simp [ih]

theorem IsSub.height_le (h : IsSub t' t) : t'.height ≤ t.height := by
  induction h with
  | refl => exact Nat.le_refl _
  | left _ ih => simp [height]; omega
  | right _ ih => simp [height]; omega

theorem exists_isSub_of_mem_slots {i : Nat} (h : i ∈ t.slots) :
    ∃ l k v hh r, IsSub (node i l k v hh r) t := by
  induction t with
  | nil => simp at h
  | node j l k v hh r ihl ihr =>
    simp only [slots_node, List.mem_append, List.mem_cons] at h
    rcases h with h | h | h
    · obtain ⟨l', k', v', hh', r', hs⟩ := ihl h
      exact ⟨l', k', v', hh', r', .left hs⟩
    · subst h
      exact ⟨l, k, v, hh, r, .refl _⟩
    · obtain ⟨l', k', v', hh', r', hs⟩ := ihr h
      exact ⟨l', k', v', hh', r', .right hs⟩

-- The next four lemmas and `IsSub.height_le` serve `Tree.image_bounded` (BytesRT): the registers of a live record are
-- bounded because its node is a subtree of the root.

theorem isSub_of_sub {i : Nat} (h : t.sub i = some t') : IsSub t' t := by
  induction t with
  | nil => simp [sub] at h
  | node j l k v hh r ihl ihr =>
    unfold sub at h
    split at h
    · cases h; exact .refl _
    · split at h
      · rename_i heq
        cases h; exact .left (ihl heq)
      · exact .right (ihr h)

theorem IsSub.bal (h : IsSub t' t) (hb : t.Bal) : t'.Bal := by
  induction h with
  | refl => exact hb
  | left _ ih => exact ih hb.1
  | right _ ih => exact ih hb.2.1

theorem IsSub.toList_mem (h : IsSub t' t) {e : Nat × α × β} (he : e ∈ t'.toList) :
    e ∈ t.toList := by
  induction h with
  | refl => exact he
  | left _ ih => simp [toList, ih]
  | right _ ih => simp [toList, ih]

/-- The slot register of a subtree obeys every positive bound on the slots of the tree (it is 0 or one of them). -/
theorem IsSub.slot_lt (h : IsSub t' t) {B : Nat} (hB : 0 < B) (hs : ∀ i ∈ t.slots, i < B) :
    t'.slot < B := by
  cases t' with
  | nil => exact hB
  | node => exact hs _ (h.slot_mem (by simp))

theorem sub_of_isSub (h : IsSub t' t) (hne : t' ≠ nil) (hnd : t.slots.Nodup) :
    t.sub t'.slot = some t' := by
  induction h with
  | refl => cases t' with
    | nil => exact absurd rfl hne
    | node => simp [sub, slot]
  | @left i l k v hh r hs ih =>
    have hm := hs.slot_mem hne
    rw [slots_node, List.nodup_append] at hnd
    have hne' : t'.slot ≠ i := hnd.2.2 _ hm _ (by simp)
    simp [sub, hne', ih hnd.1]
  | @right i l k v hh r hs ih =>
    have hm := hs.slot_mem hne
    rw [slots_node, List.nodup_append, List.nodup_cons] at hnd
    have hne' : t'.slot ≠ i := fun e => hnd.2.1.1 (e ▸ hm)
    have hnl : t'.slot ∉ l.slots := fun hl => hnd.2.2 _ hl _ (by simp [hm]) rfl
    simp [sub, hne', sub_none hnl, ih hnd.2.1.2]

end T

namespace Tree
variable (c : TreeCfg) (kd : α) (vd : β) (s : Tree α β)

theorem image_recs_length : (s.image c kd vd).recs.length = s.slots := by
  simp [image]

theorem image_hdr_root : (s.image c kd vd).hdr.root = s.root.slot := rfl

theorem image_recs_getElem? {j : Nat} (hj : j < s.slots) : (s.image c kd vd).recs[j]? = some (s.recAt c kd vd (j + 1)) := by
  simp [image, List.getElem?_map, List.getElem?_range hj]

theorem seqReg_of_le (h : s.seq ≤ c.W) : s.seqReg c = s.seq := Nat.mod_eq_of_lt (Nat.lt_succ_of_le h)

theorem flhReg_eq : s.flhReg c = s.free.head?.getD (s.seqReg c) := by
  unfold flhReg
  cases s.free <;> rfl

theorem recAt_node (hnd : s.root.slots.Nodup)
    {i : Nat} {l : T α β} {k : α} {v : β} {hh : Nat} {r : T α β}
    (hs : T.IsSub (.node i l k v hh r) s.root) :
    s.root.sub i = some (.node i l k v hh r) ∧
      s.recAt c kd vd i = ⟨l.slot, r.slot, hh, 0, k, v⟩ := by
  have h1 : s.root.sub i = some (.node i l k v hh r) :=
    T.sub_of_isSub hs (by simp) hnd
  exact ⟨h1, by simp [recAt, h1]⟩

theorem recAt_free {i nxt : Nat}
    (hni : i ∉ s.root.slots) (hf : freeNext (s.seqReg c) s.free i = some nxt) :
    s.recAt c kd vd i = ⟨0, 0, nxt, 0, kd, vd⟩ := by
  simp [recAt, T.sub_none hni, hf]

theorem recAt_unused {i : Nat}
    (hni : i ∉ s.root.slots) (hnf : i ∉ s.free) :
    s.recAt c kd vd i = ⟨0, 0, 0, 0, kd, vd⟩ := by
  simp [recAt, T.sub_none hni, freeNext_none hnf]

theorem walk_image (h : s.LayoutOk c) :
    ∀ t' : T α β, T.IsSub t' s.root → ∀ fuel, t'.height ≤ fuel →
      (s.image c kd vd).walk fuel t'.slot = some t' := by
  intro t'
  induction t' with
  | nil => intro _ fuel _; simp [T.slot, TreeImage.walk]
  | node i l k v hh r ihl ihr =>
    intro hs fuel hf
    have hmem : i ∈ s.root.slots := hs.slot_mem (by simp)
    have hr := h.range i (by simp [hmem])
    obtain ⟨i', rfl⟩ := Nat.exists_eq_add_one.2 hr.1
    simp only [T.height] at hf
    obtain ⟨f, rfl⟩ := Nat.exists_eq_add_one.2 (Nat.zero_lt_of_lt hf)
    have hf' := Nat.le_of_succ_le_succ hf
    have hl := ihl (T.IsSub.trans (.left (.refl _)) hs) f (Nat.le_trans (Nat.le_max_left _ _) hf')
    have hr' := ihr (T.IsSub.trans (.right (.refl _)) hs) f (Nat.le_trans (Nat.le_max_right _ _) hf')
    have hrec := (recAt_node c kd vd s (List.nodup_append.1 h.nodup).1 hs).2
    show (s.image c kd vd).walk (f + 1) (i' + 1) = _
    simp [TreeImage.walk, image_recs_getElem? c kd vd s hr.2, hrec, hl, hr']

theorem walkFree_image (h : s.LayoutOk c) :
    ∀ rest pre : List Nat, s.free = pre ++ rest → ∀ fuel, rest.length ≤ fuel →
      (s.image c kd vd).walkFree (s.seqReg c) fuel (rest.head?.getD (s.seqReg c)) = some rest := by
  intro rest
  induction rest with
  | nil => intro pre _ fuel _; unfold TreeImage.walkFree; simp
  | cons a rest ih =>
    intro pre hp fuel hf
    have hmem : a ∈ s.free := by simp [hp]
    have hne := h.free_ne a hmem
    have hr := h.range a (by simp [hmem])
    have hnd0 := List.nodup_append.1 h.nodup
    have hni : a ∉ s.root.slots := fun hm => hnd0.2.2 _ hm _ hmem rfl
    simp only [List.length_cons] at hf
    obtain ⟨f, rfl⟩ := Nat.exists_eq_add_one.2 (Nat.zero_lt_of_lt hf)
    have hnd : (pre ++ a :: rest).Nodup := hp ▸ hnd0.2.1
    have hfn : freeNext (s.seqReg c) s.free a = some (rest.head?.getD (s.seqReg c)) := by
      rw [hp]; exact freeNext_suffix pre a rest hnd
    have hrec := recAt_free c kd vd s hni hfn
    have hih := ih (pre ++ [a]) (by simp [hp]) f (Nat.le_of_succ_le_succ hf)
    unfold TreeImage.walkFree
    simp [hne, TreeImage.recAt?, Nat.ne_of_gt hr.1, image_recs_getElem? c kd vd s (Nat.sub_one_lt_of_le hr.1 hr.2),
      Nat.sub_add_cancel hr.1, hrec, hih]

end Tree

theorem TreeImage.decodeCore_image (c : TreeCfg) (kd : α) (vd : β) (s : Tree α β)
    (h : s.LayoutOk c) : (s.image c kd vd).decodeCore c = some s := by
  have hlen := Tree.image_recs_length c kd vd s
  have hnd := List.nodup_append.1 h.nodup
  have h2 : s.free.length ≤ s.slots :=
    length_le_of_nodup_range _ _ hnd.2.1 (fun i hi => h.range i (by simp [hi]))
  have hw := Tree.walk_image c kd vd s h s.root (.refl _) s.slots
    (T.height_le_of_nodup_range hnd.1 (fun i hi => h.range i (by simp [hi])))
  have hf := Tree.walkFree_image c kd vd s h s.free [] (by simp) (s.slots + 1) (by omega)
  rw [← Tree.flhReg_eq] at hf
  have eh : (s.image c kd vd).hdr = s.hdr c := rfl
  simp only [decodeCore, hlen, eh, Tree.hdr, hw, hf, h.seq_ok]

theorem TreeImage.decode_image [DecidableEq α] [DecidableEq β] (c : TreeCfg) (kd : α) (vd : β)
    (s : Tree α β) (h : s.LayoutOk c) : (s.image c kd vd).decode c kd vd = some s := by
  simp [decode, decodeCore_image c kd vd s h]

/-- The strict decoder accepts nothing but layouts, and no two images decode to the same state. -/
theorem TreeImage.image_of_decode [DecidableEq α] [DecidableEq β] (c : TreeCfg) (kd : α) (vd : β)
    (img : TreeImage α β) (s : Tree α β) (h : img.decode c kd vd = some s) :
    s.image c kd vd = img := by
  unfold decode at h
  split at h
  · split at h
    · cases h; assumption
    · cases h
  · cases h

/-- Slot trichotomy: in the layout of a state every record is exactly one of
    live (a tree node), recycled (on the free list) or never used (all zero). -/
theorem Tree.recAt_trichotomy (c : TreeCfg) (kd : α) (vd : β) (s : Tree α β)
    (h : s.LayoutOk c) (i : Nat) :
    (i ∈ s.root.slots ∧ i ∉ s.free ∧
        ∃ l k v hh r, s.root.sub i = some (.node i l k v hh r) ∧
          s.recAt c kd vd i = ⟨l.slot, r.slot, hh, 0, k, v⟩) ∨
    (i ∉ s.root.slots ∧ i ∈ s.free ∧
        ∃ nxt, freeNext (s.seqReg c) s.free i = some nxt ∧ s.recAt c kd vd i = ⟨0, 0, nxt, 0, kd, vd⟩) ∨
    (i ∉ s.root.slots ∧ i ∉ s.free ∧ s.recAt c kd vd i = ⟨0, 0, 0, 0, kd, vd⟩) := by
  have hnd := List.nodup_append.1 h.nodup
  by_cases hm : i ∈ s.root.slots
  · refine .inl ⟨hm, fun hf => hnd.2.2 _ hm _ hf rfl, ?_⟩
    obtain ⟨l, k, v, hh, r, hs⟩ := T.exists_isSub_of_mem_slots hm
    exact ⟨l, k, v, hh, r, Tree.recAt_node c kd vd s hnd.1 hs⟩
  · by_cases hf : i ∈ s.free
    · refine .inr (.inl ⟨hm, hf, ?_⟩)
      obtain ⟨pre, rest, hp⟩ := List.append_of_mem hf
      have hfn : freeNext (s.seqReg c) s.free i = some (rest.head?.getD (s.seqReg c)) := by
        rw [hp]; exact freeNext_suffix pre i rest (hp ▸ hnd.2.1)
      exact ⟨_, hfn, Tree.recAt_free c kd vd s hm hfn⟩
    · exact .inr (.inr ⟨hm, hf, Tree.recAt_unused c kd vd s hm hf⟩)

/-- The default record the literal model reads for index 0 / out-of-range indices. -/
def Imp.dflt (kd : α) (vd : β) : Rec α β := ⟨0, 0, 0, 0, kd, vd⟩

/-- The left side is the header literal the translated `initialize_tree` unfolds to on the layout of an all-zero
    buffer (`Gen32/Gen8.initialize_zero`).  The register of cursor 1 is 1 (`1 % (W + 1)`) because `0 < W`. -/
theorem Tree.image_init (c : TreeCfg) (hW : 0 < c.W) (kd : α) (vd : β) (n cap : Nat) :
    { (Tree.zero n : Tree α β).image c kd vd with
        hdr := { root := 0, size := 0, cap := cap, flh := 1, seq := 1, pad := 0 } }
      = (Tree.init n cap : Tree α β).image c kd vd := by
  simp only [Tree.image, Tree.hdr, Tree.init, Tree.zero, Tree.flhReg, Tree.seqReg, T.slot]
  rw [Nat.mod_eq_of_lt (show 1 < c.W + 1 by omega)]
  rfl

end Stevia
