/-
  Stevia.Proofs.TreeImpRemove — the literal `remove` computes, on the layout of every well-formed state, the layout
  of what the functional `Tree.remove` computes.

  Either splice leaves a zipper in memory whose walk outwards is `T.del`: for a node with at most one child the
  zipper of the search path with that child in the hole; for two children the left spine of the right subtree, on
  top of the frame of the removed node relabelled as its in-order successor, with the successor's right subtree in
  the hole.
-/
import Stevia.Proofs.TreeImpLoop

namespace Stevia
variable {α β : Type}

section Pure
variable [LinOrd α]

/-- The third arm of `T.del`, which the model does not name (`T.up_descend_del` with the key at the root ties the
    two). -/
def T.delRoot : T α β → T α β
  | .nil => .nil
  | .node _ l _ _ _ r =>
    match l, r with
    | .nil, .nil => .nil
    | .node li ll lk lv lh lr, .nil => .node li ll lk lv lh lr
    | .nil, .node ri rl rk rv rh rr => .node ri rl rk rv rh rr
    | .node li ll lk lv lh lr, .node ri rl rk rv _ rr =>
      let p := T.popMin ri rl rk rv rr
      T.rebal p.1.1 (.node li ll lk lv lh lr) p.1.2.1 p.1.2.2 p.2

theorem T.up_descend_del (key : α) (t : T α β) (ctx : List (Frame α β)) :
    up (t.descend key ctx) (t.focus key).delRoot = up ctx (t.del key) := by
  induction t generalizing ctx with
  | nil => rfl
  | node i l k v h r ihl ihr =>
    simp only [T.descend, T.focus, T.del]
    split
    · rw [ihl]; rfl
    · split
      · rw [ihr]; rfl
      · cases l <;> cases r <;> rfl

end Pure

/-- A node with at most one child `C` (`nil` if it has none) is a frame with nothing on the other side around `C`;
    `delRoot` leaves `C`, and the literal `remove` takes the branch that splices `C.slot` in. -/
theorem T.delRoot_one (i : Nat) (k : α) (v : β) (h : Nat) {l r : T α β} (hone : l = .nil ∨ r = .nil) :
    ∃ b C, T.node i l k v h r = Frame.node ⟨i, k, v, h, b, .nil⟩ h C ∧
      T.delRoot (.node i l k v h r) = C ∧ ¬ (l.slot ≠ 0 ∧ r.slot ≠ 0) ∧ Imp.selChild l.slot r.slot = C.slot := by
  rcases hone with rfl | rfl
  · exact ⟨true, r, rfl, by cases r <;> rfl, fun h0 => h0.1 rfl, Imp.selChild_zero_left _⟩
  · exact ⟨false, l, rfl, by cases l <;> rfl, fun h0 => h0.2 rfl, Imp.selChild_zero_right _⟩

section Memory
variable (d : Rec α β) (hdr : Hdr) {n : Nat} {f : Nat → Rec α β}

/-- The walk to the leftmost node `lm` of an owned tree records the left spine `sp` (the frames it passes, innermost
    first); `popMin` takes `lm` out and rebalances along that spine. -/
theorem leftmostWalk_rep :
    ∀ (l : T α β) (i : Nat) (k : α) (v : β) (h : Nat) (r : T α β) (fuel p : Nat)
      (inner : List Imp.Ancestor),
      Own n f (.node i l k v h r) → (T.node i l k v h r).height ≤ fuel →
      Imp.leftT d (mkImg hdr n f) fuel i = true ∧
      ∃ sp lm lmk lmv lmh lmr, (∀ fr ∈ sp, fr.dir = false) ∧
        plug sp (.node lm .nil lmk lmv lmh lmr) = .node i l k v h r ∧
        T.popMin i l k v r = ((lm, lmk, lmv), up sp lmr) ∧
        Imp.leftmostWalk d (mkImg hdr n f) fuel i p inner =
          (lm, ((sp.head?).map (·.i)).getD p, inner ++ (pathFrames sp lm).reverse) := by
  intro l
  induction l with
  | nil =>
    intro i k v h r fuel p inner ho hf
    simp only [T.height] at hf
    obtain ⟨fuel, rfl⟩ := Nat.exists_eq_add_one.2 (Nat.zero_lt_of_lt hf)
    refine ⟨?_, [], i, k, v, h, r, by simp, rfl, rfl, ?_⟩
    · simp [Imp.leftT, ho.rd d hdr, T.rc]
    · simp [Imp.leftmostWalk, ho.rd d hdr, T.rc, pathFrames]
  | node li ll lk lv lh lr ihl _ =>
    intro i k v h r fuel p inner ho hf
    simp only [T.height] at hf
    obtain ⟨fuel, rfl⟩ := Nat.exists_eq_add_one.2 (Nat.zero_lt_of_lt hf)
    obtain ⟨ih1, sp, lm, lmk, lmv, lmh, lmr, hdir, hplug, hpop, hwalk⟩ :=
      ihl li lk lv lh lr fuel i (inner ++ [(some i, some false, li)]) ho.left
        (Nat.le_trans (Nat.le_max_left _ _) (Nat.le_of_succ_le_succ hf))
    have hroot : rootSlot sp lm = li := by rw [← T.slot_node lm, ← slot_plug, hplug, T.slot_node]
    refine ⟨?_, sp ++ [⟨i, k, v, h, false, r⟩], lm, lmk, lmv, lmh, lmr, ?_, ?_, ?_, ?_⟩
    · simp only [Imp.leftT, ho.rd d hdr, T.rc, T.slot_node]
      rw [if_pos ho.left.slot_ne_zero, ih1]
    · intro fr hfr
      rcases List.mem_append.1 hfr with hfr | hfr
      · exact hdir fr hfr
      · rw [List.mem_singleton.1 hfr]
    · rw [plug_append, hplug]
      rfl
    · simp only [T.popMin, hpop, up_append]
      rfl
    · simp only [Imp.leftmostWalk, ho.rd d hdr, T.rc, T.slot_node]
      rw [if_pos ho.left.slot_ne_zero, hwalk]
      simp only [pathFrames_append, hroot, pathFrames, List.reverse_append, List.reverse_cons, List.reverse_nil,
        List.nil_append, List.append_assoc, List.singleton_append, List.head?_append]
      congr 2
      cases sp <;> rfl

/-- Where the hole is the root, nothing is written (the root word is `setRoot_step`'s). -/
theorem relinkParent_spec (ctx : List (Frame α β)) (s x : Nat) (hctx : RepCtx f ctx s) (hv : Valid n (slotsC ctx)) :
    ∃ f', Imp.relinkParent d (mkImg hdr n f) (ctx.head?.map (·.i), ctx.head?.map (·.dir), s) x = mkImg hdr n f' ∧
      RepCtx f' ctx x ∧ Agree (slotsC ctx) f' f := by
  cases ctx with
  | nil => exact ⟨f, rfl, trivial, Agree.refl _ _⟩
  | cons fr ctx' =>
    obtain ⟨f', e, r, a⟩ := RepCtx.relink_slot d hdr x hctx hv
    exact ⟨f', e, r, a.mono₁ (by simp)⟩

/-- The zipper is focused on the child `C` that stays; the splice drops the innermost frame `fr`, the removed node.
    The path handed to `rebalance` starts at the parent, `pathUp ctx` — except that for a node `C` under a parent the
    Rust code starts it at `C` itself: the zipper `(ctxT, t)` that goes with that path is then focused on the left
    child of `C`, and walking outwards from there gives the same tree, since `C` is balanced. -/
theorem spliceChild_zip {fr : Frame α β} {ctx : List (Frame α β)} {C : T α β}
    (hz : OwnZ n f (fr :: ctx) C.slot C) (hb : C.Bal) :
    ∃ f4 ctxT t, Imp.spliceChild d (mkImg hdr n f) (pathOf ctx fr.i).reverse C.slot =
        (mkImg hdr n f4, (pathUp ctxT).reverse, C.slot) ∧
      OwnZ n f4 ctxT t.slot t ∧ rootSlot ctxT t.slot = rootSlot ctx C.slot ∧ up ctxT t = up ctx C ∧
      Agree (t.slots ++ slotsC ctxT) f4 f := by
  obtain ⟨hC, ⟨-, -, hctx⟩, hv⟩ := hz
  replace hv : Valid n (C.slots ++ slotsC ctx) :=
    hv.sublist (((List.sublist_append_right _ _).cons _).append_left _)
  cases ctx with
  | nil =>
    exact ⟨f, [], C, by simp [Imp.spliceChild, pathOf, pathUp], ⟨hC, trivial, hv⟩, rfl, rfl, Agree.refl _ _⟩
  | cons fr' ctx' =>
    obtain ⟨f4, e, hz, a⟩ := RepCtx.relink d hdr hctx hC hv
    simp only [Imp.spliceChild, pathOf, List.reverse_cons, List.getLast?_concat, Option.getD_some,
      List.dropLast_concat, e]
    cases C with
    | nil => exact ⟨f4, fr' :: ctx', .nil, by simp [pathUp], hz, rfl, rfl, a.mono₁ (by simp)⟩
    | node ci cl ck cv ch cr =>
      obtain ⟨_, _, h1, h2, hh⟩ := hb
      refine ⟨f4, ⟨ci, ck, cv, ch, false, cr⟩ :: fr' :: ctx', cl, ?_,
        OwnZ.zip [⟨ci, ck, cv, ch, false, cr⟩] cl hz, rfl, ?_, a.mono₁ (by simp)⟩
      · simp [pathUp, pathOf, hz.own.slot_ne_zero]
      · rw [up, Frame.rebal, if_neg (by simp), T.rebal_mid h1 h2, hh]
        rfl

/-- `sp` is the left spine down to the successor `lm`, `lmr` the right child of the successor.  Afterwards `lm` stands
    where `ni` stood, as the same frame (left child `L`), and the focus is `lmr`, which has taken the place of `lm` at
    the bottom of the spine: `rebalance` starts there. -/
theorem spliceTwo_zip {ctx sp : List (Frame α β)}
    {ni : Nat} {nk : α} {nv : β} {nh : Nat} {L : T α β} {lm : Nat} {lmk : α} {lmv : β} {lmh : Nat} {lmr : T α β}
    (hdir : ∀ fr ∈ sp, fr.dir = false)
    (hz : OwnZ n f ctx ni (.node ni L nk nv nh (plug sp (.node lm .nil lmk lmv lmh lmr))))
    (hwalk : Imp.leftmostWalk d (mkImg hdr n f) (n + 1) (rootSlot sp lm) 0 [] =
      (lm, ((sp.head?).map (·.i)).getD 0, (pathFrames sp lm).reverse)) :
    ∃ f4, Imp.spliceTwo d (mkImg hdr n f) (pathOf ctx ni).reverse L.slot (rootSlot sp lm) =
        (mkImg hdr n f4, (pathUp (sp ++ ⟨lm, lmk, lmv, lmh, true, L⟩ :: ctx)).reverse, lm) ∧
      OwnZ n f4 (sp ++ ⟨lm, lmk, lmv, lmh, true, L⟩ :: ctx) lmr.slot lmr ∧
      Agree (slotsC (sp ++ ⟨lm, lmk, lmv, lmh, true, L⟩ :: ctx)) f4 f := by
  -- the zipper down to the successor
  have hz0 : OwnZ n f (sp ++ ⟨ni, nk, nv, nh, true, L⟩ :: ctx) lm (.node lm .nil lmk lmv lmh lmr) := by
    have := OwnZ.zip (ctx := ctx) (sp ++ [⟨ni, nk, nv, nh, true, L⟩]) (.node lm .nil lmk lmv lmh lmr)
      (by rw [plug_append]; exact hz)
    simpa using this
  obtain ⟨hMIN, hZ, hv0⟩ := hz0
  have hlmr : Rep f lmr := hMIN.right
  have hv0' : Valid n (lm :: (lmr.slots ++ (slotsC sp ++ (ni :: (L.slots ++ slotsC ctx))))) := by
    simpa using hv0
  obtain ⟨hlmin, hlmZ, hvZ⟩ := valid_cons.1 hv0'
  obtain ⟨hlm_r, hlm_sp, -, hlm_L, hlm_ctx⟩ :
      lm ∉ lmr.slots ∧ lm ∉ slotsC sp ∧ lm ≠ ni ∧ lm ∉ L.slots ∧ lm ∉ slotsC ctx := by
    simpa only [List.mem_append, List.mem_cons, not_or] using hlmZ
  -- the slots of the zipper that results: `ni` has gone, `lm` has taken its place
  have hvOut : Valid n (lmr.slots ++ slotsC (sp ++ ⟨lm, lmk, lmv, lmh, true, L⟩ :: ctx)) := by
    have : Valid n (lm :: (lmr.slots ++ (slotsC sp ++ (L.slots ++ slotsC ctx)))) := hv0'.sublist (by simp)
    refine this.perm ?_
    simp only [slotsC_append, slotsC_cons, List.perm_iff_count, List.count_append, List.count_cons]
    intro a; omega
  have hvS : Valid n ((lmr.slots ++ slotsC (sp ++ [⟨lm, lmk, lmv, lmh, true, L⟩])) ++ slotsC ctx) := by
    simpa using hvOut
  have hdC := hvS.disjoint
  -- what is left to do once `lm` holds the registers of its frame: the parent of the removed node gets `lm`
  have hparent : ∀ (f3 : Nat → Rec α β) (H : Nat), RepCtx f3 sp lmr.slot → Rep f3 lmr → Rep f3 L →
      RepCtx f3 ctx ni →
      f3 lm = (⟨lm, lmk, lmv, lmh, true, L⟩ : Frame α β).rc H (rootSlot sp lmr.slot) →
      Agree (slotsC (sp ++ ⟨lm, lmk, lmv, lmh, true, L⟩ :: ctx)) f3 f →
      ∃ f4, Imp.relinkParent d (mkImg hdr n f3) (ctx.head?.map (·.i), ctx.head?.map (·.dir), ni) lm =
          mkImg hdr n f4 ∧
        OwnZ n f4 (sp ++ ⟨lm, lmk, lmv, lmh, true, L⟩ :: ctx) lmr.slot lmr ∧
        Agree (slotsC (sp ++ ⟨lm, lmk, lmv, lmh, true, L⟩ :: ctx)) f4 f := by
    intro f3 H hsp hlmr3 hL3 hctx3 hlm3 a3
    obtain ⟨f4, e4, r4, a4⟩ := relinkParent_spec d hdr ctx ni lm hctx3 hvS.right
    refine ⟨f4, e4, ⟨hlmr3.agree a4 ?_, (repCtx_append sp _ lmr.slot).2
      ⟨hsp.agree a4 ?_, ?_, hL3.agree a4 ?_, r4⟩, hvOut⟩, (a4.mono ?_).trans a3⟩
    · exact fun j hj => hdC j (by simp [hj])
    · exact fun j hj => hdC j (by simp [hj])
    · rw [a4 lm (hdC lm (by simp))]
      exact Frame.rc_self hlm3
    · exact fun j hj => hdC j (by simp [hj])
    · exact fun j hj => by simp [hj]
  unfold Imp.spliceTwo
  simp only [mkImg_recs_length, hwalk, pathOf_eq, List.reverse_cons, List.dropLast_concat,
    List.getLast?_concat, Option.getD_some]
  cases sp with
  | nil =>
    simp only [rootSlot_nil, List.head?_nil, Option.map_none, Option.getD_none, pathFrames, List.reverse_nil,
      List.dropLast_nil, List.append_nil, ne_eq, not_true_eq_false, if_false, List.nil_append] at hZ ⊢
    obtain ⟨-, hL, hctx⟩ := hZ
    -- the right child is the successor: it takes over the left child
    obtain ⟨H, e1⟩ := updateChild_link d hdr n f false L.slot hlmin.1 hlmin.2
    have a1 : Agree [lm] (upd f lm ((f lm).link false L.slot H)) f := agree_upd _ _ (by simp)
    obtain ⟨f4, e4, hz4, a4⟩ := hparent _ H trivial (hlmr.agree₁ a1 hlm_r) (hL.agree₁ a1 hlm_L)
      (hctx.agree₁ a1 hlm_ctx) (by rw [upd_same, hMIN.at_root]; rfl) (a1.mono₁ (by simp))
    rw [e1, e4]
    exact ⟨f4, by rw [pathUp, pathOf_eq, List.reverse_cons], hz4, a4⟩
  | cons fr0 sp' =>
    have hd0 : fr0.dir = false := hdir fr0 (by simp)
    have hri : rootSlot (fr0 :: sp') lm ≠ lm := fun e => hlm_sp (e ▸ rootSlot_mem fr0 sp' lm)
    have hp0 : fr0.i ≠ 0 := Nat.ne_of_gt (hvZ.range fr0.i (by simp)).1
    simp only [List.head?_cons, Option.map_some, Option.getD_some, pathFrames, List.reverse_cons,
      List.dropLast_concat, ne_eq, hp0, not_false_eq_true, if_true, hri,
      rd_mkImg d hdr n f hlmin.1 hlmin.2, hMIN.at_root, T.rc]
    -- the successor's right subtree goes to the successor's parent
    obtain ⟨f1, e1, hz1, a1⟩ := RepCtx.relink d hdr (t := lmr) hZ hlmr
      (by simpa using hvZ)
    rw [hd0] at e1
    -- the successor takes over the two children of the removed node
    obtain ⟨H2, e2⟩ := updateChild_link d hdr n f1 false L.slot hlmin.1 hlmin.2
    obtain ⟨H3, e3⟩ := updateChild_link d hdr n (upd f1 lm ((f1 lm).link false L.slot H2)) true
      (rootSlot (fr0 :: sp') lm) hlmin.1 hlmin.2
    have a3 : Agree [lm] (upd f1 lm (((f1 lm).link false L.slot H2).link true (rootSlot (fr0 :: sp') lm) H3)) f1 :=
      agree_upd _ _ (by simp)
    have hz3 := hz1.agree a3 (fun j hj hm =>
      hlmZ (by simpa [List.mem_singleton.1 hm] using hj))
    obtain ⟨hsp, _, hL3, hctx3⟩ := (repCtx_append (fr0 :: sp') _ lmr.slot).1 hz3.repCtx
    obtain ⟨f4, e4, hz4, a4⟩ := hparent _ H3 hsp hz3.rep hL3 hctx3
      (by rw [upd_same, a1.at₁ (fun e => hlm_sp (by simp [e])), hMIN.at_root]; rfl)
      ((a3.mono₁ (by simp)).trans (a1.mono₁ (by simp)))
    rw [e1, e2, e3, upd_same, upd_upd, e4]
    exact ⟨f4, by simp [pathUp, pathOf_append, pathOf, pathOf_eq ctx lm], hz4, a4⟩

end Memory

/-- The root word is rewritten exactly when the removed node was the root. -/
theorem setRoot_step (hdr : Hdr) (n : Nat) (f : Nat → Rec α β) (ctx : List (Frame α β)) (ni x : Nat)
    (hroot : hdr.root = rootSlot ctx ni) (hni : ni ∉ slotsC ctx) :
    (if ni = (mkImg hdr n f).hdr.root then Imp.setRoot (mkImg hdr n f) x else mkImg hdr n f) =
      mkImg { hdr with root := rootSlot ctx x } n f := by
  cases ctx with
  | nil =>
    simp only [rootSlot_nil] at hroot ⊢
    rw [mkImg_hdr, if_pos hroot.symm, setRoot_mkImg]
  | cons fr ctx' =>
    have hne : ni ≠ hdr.root := fun e => hni (by rw [e, hroot]; exact rootSlot_mem fr ctx' ni)
    rw [rootSlot_cons] at hroot ⊢
    rw [mkImg_hdr, if_neg hne, hdr.root_self hroot]

section Finish
variable [LinOrd α]

/-- `remove_node` closes the operation: the removed slot becomes the head of the free list. -/
theorem removeNode_image {c : TreeCfg} {kd : α} {vd : β} {s : Tree α β} (h : s.Inv c) {k : α} {ni : Nat}
    {v : β} (hf : s.root.find k = some (ni, v)) (hv : (s.recAt c kd vd ni).val = v) {f' : Nat → Rec α β}
    (hr : Rep f' (s.root.del k)) (hag : Agree (s.root.del k).slots f' (s.recAt c kd vd)) :
    Imp.removeNode (Imp.dflt kd vd) (mkImg { s.hdr c with root := (s.root.del k).slot } s.slots f') ni =
      (({ s with root := s.root.del k, free := ni :: s.free, size := s.size - 1 } : Tree α β).image c kd vd,
        v) := by
  obtain ⟨_, hinv, hperm⟩ := Tree.remove_found h hf
  have hnd' := hinv.nodup
  have hni : ni ∉ (s.root.del k).slots := fun hm =>
    (List.nodup_append.1 hnd').2.2 ni hm ni (by simp) rfl
  have hval : (f' ni).val = v := by rw [hag ni hni, hv]
  have hni1 : 1 ≤ ni ∧ ni ≤ s.slots := h.rootValid.range ni (T.find_mem_slots hf)
  unfold Imp.removeNode
  rw [rd_mkImg _ _ _ _ hni1.1 hni1.2, hval]
  congr 1
  simp only [wr_mkImg, mk_recs_mkImg, mkImg_hdr]
  have himg := mkImg_eq_image c kd vd
    ({ s with root := s.root.del k, free := ni :: s.free, size := s.size - 1 } : Tree α β)
    (upd f' ni ⟨0, 0, s.flhReg c, 0, kd, vd⟩) hinv.rootNodup (hr.upd_of_not_mem _ hni) (by
      intro j hj
      by_cases hjn : j = ni
      · subst hjn
        rw [upd_same]
        exact (Tree.recAt_free c kd vd _ hj (by rw [Tree.flhReg_eq]; exact freeNext_head)).symm
      · have hjs : j ∉ s.root.slots := fun hm => by
          rcases List.mem_cons.1 (hperm.mem_iff.1 hm) with e | e
          · exact hjn e
          · exact hj e
        rw [upd_ne _ _ hjn, hag j hj]
        exact (Tree.recAt_congr_free c kd vd hjs hj (freeNext_cons_ne hjn)).symm)
  rw [← himg]
  rfl

/-- `ctx` is the context of the removed node `ni` and `x` the slot that has replaced `ni` in its hole; `(ctxT, t)` is
    the zipper the splice has left in memory. -/
theorem removeFinish_image {c : TreeCfg} {kd : α} {vd : β} {s : Tree α β} (h : s.Inv c) {k : α} {ni : Nat}
    {v : β} (hf : s.root.find k = some (ni, v)) (hv : (s.recAt c kd vd ni).val = v)
    {ctx ctxT : List (Frame α β)} {t : T α β}
    {f4 : Nat → Rec α β} {x : Nat} (hroot : s.root.slot = rootSlot ctx ni) (hni : ni ∉ slotsC ctx)
    (hrs : rootSlot ctxT t.slot = rootSlot ctx x)
    (hpure : up ctxT t = s.root.del k) (hz : OwnZ s.slots f4 ctxT t.slot t)
    (hag : Agree (t.slots ++ slotsC ctxT) f4 (s.recAt c kd vd)) :
    Imp.removeFinish (Imp.dflt kd vd) ni (mkImg (s.hdr c) s.slots f4, (pathUp ctxT).reverse, x) =
      (({ s with root := s.root.del k, free := ni :: s.free, size := s.size - 1 } : Tree α β).image c kd vd,
        some v) := by
  simp only [Imp.removeFinish]
  rw [setRoot_step (s.hdr c) s.slots f4 ctx ni x hroot hni, ← hrs]
  obtain ⟨f', e, r', a⟩ := rebalance_loop (Imp.dflt kd vd)
    { s.hdr c with root := rootSlot ctxT t.slot } ctxT f4 t hz rfl
  rw [e, hpure]
  rw [hpure] at r'
  have hp := slots_up_perm ctxT t
  rw [hpure] at hp
  rw [removeNode_image h hf hv r'
    ((a.trans hag).mono (fun j hj => hp.mem_iff.2 hj))]

/-- The literal `remove` computes, on the layout of a well-formed state, the layout of what `Tree.remove` computes. -/
theorem Imp.remove_eq (c : TreeCfg) (kd : α) (vd : β) (s s' : Tree α β) (h : s.Inv c) (k : α)
    (r : Option β) (hr : s.remove k = .ok (s', r)) :
    Imp.remove (Imp.dflt kd vd) (s.image c kd vd) k = (s'.image c kd vd, r) := by
  have ho := h.own kd vd
  obtain ⟨-, -, hdesc⟩ := search_image c kd vd s h k
  have hfind := T.find_eq_focus k s.root
  have hz := h.ownZ_focus kd vd k
  rw [Imp.remove_unfold, Tree.image_recs_length, Tree.image_hdr_root, hdesc]
  cases hfoc : s.root.focus k with
  | nil =>
    rw [hfoc] at hfind
    simp only [Tree.remove, hfind] at hr
    cases hr
    simp only [T.slot_nil, if_true, ite_self]
  | node ni L nk v nh R =>
    rw [hfoc] at hfind
    obtain ⟨hrem, _, _⟩ := Tree.remove_found h hfind
    rw [hrem] at hr
    cases hr
    have hplug : plug (s.root.descend k []) (s.root.focus k) = s.root := T.plug_descend k s.root []
    have hpure : up (s.root.descend k []) (s.root.focus k).delRoot = s.root.del k := T.up_descend_del k s.root []
    rw [hfoc] at hplug hpure hz
    generalize s.root.descend k [] = ctx at hplug hpure hz ⊢
    simp only [T.slot_node] at hz ⊢
    have hN : Own s.slots (s.recAt c kd vd) (.node ni L nk v nh R) := hz.own
    have hniC : ni ∉ slotsC ctx := hz.valid.disjoint ni (by simp)
    have hrs : s.root.slot = rootSlot ctx ni := by rw [← hplug, slot_plug]; rfl
    have hbalN : (T.node ni L nk v nh R).Bal := bal_of_plug (hplug ▸ h.bal)
    have hni0 : ni ≠ 0 := hN.slot_ne_zero
    have hval : (s.recAt c kd vd ni).val = v := by rw [hN.at_root]; rfl
    have hroot0 : s.root.slot ≠ 0 := mt ho.slot_eq_zero.1 (fun e => by rw [e] at hfind; cases hfind)
    have hrd : Imp.rd (Imp.dflt kd vd) (s.image c kd vd) ni = T.rc L nk v nh R := hN.rd _ (s.hdr c)
    rw [if_neg hroot0]
    simp only [hrd, T.rc, if_neg hni0]
    by_cases hone : L = .nil ∨ R = .nil
    -- at most one child `C`
    · obtain ⟨b, C, hview, hdel, hone', hsel⟩ := T.delRoot_one ni nk v nh hone
      rw [if_neg hone', hsel, Tree.image_eq_mkImg]
      rw [hdel] at hpure
      rw [hview] at hz hbalN
      obtain ⟨f4, ctxT, t, e, hz4, hrs4, hup4, a4⟩ := spliceChild_zip (Imp.dflt kd vd) (s.hdr c) (ctx := ctx)
        (OwnZ.zip [⟨ni, nk, v, nh, b, .nil⟩] C (by simpa [plug] using hz)) (Frame.bal_node hbalN)
      rw [e]
      exact removeFinish_image h hfind hval hrs hniC hrs4 (hup4.trans hpure) hz4 a4
    -- two children: the successor is spliced in
    · have hLne : L ≠ .nil := fun e => hone (Or.inl e)
      cases R with
      | nil => exact absurd (Or.inr rfl) hone
      | node ri rl rk rv rh rr =>
        have htwo : L.slot ≠ 0 ∧ ri ≠ 0 :=
          ⟨mt hN.left.slot_eq_zero.1 hLne, hN.right.slot_ne_zero⟩
        rw [T.slot_node, if_pos htwo, Tree.image_eq_mkImg]
        obtain ⟨-, sp, lm, lmk, lmv, lmh, lmr, hdir, hsp, hpop, hwalk⟩ :=
          leftmostWalk_rep (Imp.dflt kd vd) (s.hdr c) rl ri rk rv rh rr (s.slots + 1) 0 [] hN.right
            (Nat.le_succ_of_le hN.right.height_le)
        have hroot : rootSlot sp lm = ri := by rw [← T.slot_node lm, ← slot_plug, hsp, T.slot_node]
        rw [← hsp] at hz
        rw [← hroot, List.nil_append] at hwalk
        obtain ⟨f4, e, hz4, a4⟩ := spliceTwo_zip (Imp.dflt kd vd) (s.hdr c) hdir hz hwalk
        rw [hroot] at e
        rw [e]
        refine removeFinish_image h hfind hval hrs hniC ?_ ?_ hz4
          (a4.mono (fun j hj => List.mem_append_right _ hj))
        · rw [rootSlot_append, rootSlot_cons]
        · rw [← hpure, up_append]
          cases L with
          | nil => exact absurd rfl hLne
          | node li ll lk lv lh lr =>
            simp only [T.delRoot, hpop]
            rfl

end Finish

end Stevia
