/-
  Stevia.Proofs.HashSetState — `HSet.Inv`, what `insert` and `remove` of the functional hash-set model keep.  Under it no
  operation faults, and each is the operation of a capacity-bounded duplicate-free list (`BSet`) on the members,
  whatever the hash function.
-/
import Stevia.Proofs.HashSetLayoutRT

namespace Stevia

/-- `set b` changes the flattened list only where `ch` stood, up to order: the same `rest` serves every `ch'`. -/
theorem flatMap_set_perm {α : Type} (l : List (List α)) (b : Nat) (ch : List α)
    (h : l[b]? = some ch) :
    ∃ rest, (l.flatMap id).Perm (ch ++ rest) ∧
      ∀ ch', ((l.set b ch').flatMap id).Perm (ch' ++ rest) := by
  induction l generalizing b with
  | nil => simp at h
  | cons x l ih =>
    cases b with
    | zero =>
      simp at h; subst h
      exact ⟨l.flatMap id, by simp, fun ch' => by simp⟩
    | succ b =>
      simp at h
      obtain ⟨rest, h1, h2⟩ := ih b h
      refine ⟨x ++ rest, ?_, fun ch' => ?_⟩
      · simp only [List.flatMap_cons, id]
        exact (h1.append_left x).trans (List.perm_append_comm_assoc _ _ _)
      · simp only [List.set_cons_succ, List.flatMap_cons, id]
        exact ((h2 ch').append_left x).trans (List.perm_append_comm_assoc _ _ _)

theorem forall_getElem?_set {α : Type} {P : Nat → α → Prop} {l : List α} {b : Nat} {x : α}
    (h : ∀ j y, l[j]? = some y → P j y) (hx : P b x) : ∀ j y, (l.set b x)[j]? = some y → P j y := by
  intro j y hj
  rw [List.getElem?_set] at hj
  split at hj
  · rename_i hbj
    subst hbj
    split at hj
    · cases hj; exact hx
    · cases hj
  · exact h j y hj

variable {β : Type}

/-- What `insert` and `remove` keep: every value in the chain of its hash, none twice, and the allocator's bookkeeping
    over the live and the released slots (`Slots.Ok`). -/
structure HSet.Inv (hash : β → Nat) (s : HSet β) : Prop where
  /-- every stored value sits in the chain of its own bucket, and only buckets `< cap` are used -/
  placed : ∀ b (ch : List (Nat × β)), s.chains[b]? = some ch → ∀ e ∈ ch, b < s.cap ∧ s.bucket hash e.2 = b
  /-- no value is stored twice -/
  nodupVals : s.members.Nodup
  size_eq : s.size = s.liveSlots.length
  nodup : (s.liveSlots ++ s.free).Nodup
  range : ∀ i ∈ s.liveSlots ++ s.free, 1 ≤ i ∧ i < s.seq
  count : (s.liveSlots ++ s.free).length + 1 = s.seq
  seq_le : s.seq ≤ s.cap + 1
  cap_le : s.cap ≤ s.slots
  /-- indices are `u32`; strict, because `seq ≤ cap + 1 ≤ slots + 1` has to pass the `seq + 1 > u32::MAX` test of `alloc` -/
  slots_lt : s.slots < 4294967295

inductive SetOp (β : Type) where
  | insert (v : β)
  | remove (v : β)
  | contains (v : β)
  | size
  | isEmpty
  | isFull

inductive SetOut where
  | bool (b : Bool)
  | nat (n : Nat)
deriving DecidableEq

/-- Reference: a capacity-bounded set, kept as a duplicate-free list. Insert
    returns true exactly when the value was absent and the set not full;
    remove returns true exactly when the value was present and removes only it. -/
def BSet.step [DecidableEq β] (cap : Nat) (m : List β) : SetOp β → List β × SetOut
  | .insert v => if v ∈ m ∨ m.length ≥ cap then (m, .bool false) else (v :: m, .bool true)
  | .remove v => if v ∈ m then (m.erase v, .bool true) else (m, .bool false)
  | .contains v => (m, .bool (decide (v ∈ m)))
  | .size => (m, .nat m.length)
  | .isEmpty => (m, .bool (m.length == 0))
  | .isFull => (m, .bool (decide (m.length ≥ cap)))

def BSet.run [DecidableEq β] (cap : Nat) (m : List β) : List (SetOp β) → List β × List SetOut
  | [] => (m, [])
  | op :: ops =>
    let r := BSet.step cap m op
    let rr := BSet.run cap r.1 ops
    (rr.1, r.2 :: rr.2)

def HSet.setStep [DecidableEq β] (hash : β → Nat) (s : HSet β) : SetOp β → Except Fault (HSet β × SetOut)
  | .insert v => (s.insert hash v).map fun r => (r.1, .bool r.2)
  | .remove v => (s.remove hash v).map fun r => (r.1, .bool r.2)
  | .contains v => (s.contains hash v).map fun r => (s, .bool r)
  | .size => .ok (s, .nat s.size)
  | .isEmpty => .ok (s, .bool s.isEmpty)
  | .isFull => .ok (s, .bool s.isFull)

def HSet.setRun [DecidableEq β] (hash : β → Nat) (s : HSet β) :
    List (SetOp β) → Except Fault (HSet β × List SetOut)
  | [] => .ok (s, [])
  | op :: ops =>
    match s.setStep hash op with
    | .error e => .error e
    | .ok (s', o) =>
      match HSet.setRun hash s' ops with
      | .error e => .error e
      | .ok (s'', os) => .ok (s'', o :: os)

/-- Insert every value of the list; every insertion must report `true`. -/
def HSet.insertAll [DecidableEq β] (hash : β → Nat) (s : HSet β) : List β → Option (HSet β)
  | [] => some s
  | v :: rest =>
    match s.insert hash v with
    | .ok (s', true) => HSet.insertAll hash s' rest
    | _ => none

variable {hash : β → Nat} {s : HSet β}

theorem HSet.Inv.slotsOk (h : s.Inv hash) : Slots.Ok s.liveSlots s.free s.seq :=
  ⟨h.nodup, h.range, h.count⟩

theorem HSet.Inv.size_le_cap (h : s.Inv hash) : s.size ≤ s.cap := by
  have := h.slotsOk.length
  have := h.seq_le
  have := h.size_eq
  omega

/-- The guards under which the operations look at a chain: `insert` unless `size = cap`, the others unless `size = 0`.
    Under either the bucket index `% cap` is defined. -/
theorem HSet.Inv.lt_cap (h : s.Inv hash) (hf : s.size ≠ s.cap) : s.size < s.cap :=
  Nat.lt_of_le_of_ne h.size_le_cap hf

theorem HSet.Inv.cap_ne_zero (h : s.Inv hash) (h0 : s.size ≠ 0) : s.cap ≠ 0 :=
  fun e => h0 (Nat.le_zero.1 (e ▸ h.size_le_cap))

theorem HSet.members_length (s : HSet β) : s.members.length = s.liveSlots.length := by
  simp only [HSet.members, HSet.liveSlots, List.length_map]

theorem HSet.Inv.members_eq_nil (h : s.Inv hash) (h0 : s.size = 0) : s.members = [] :=
  List.eq_nil_of_length_eq_zero (by rw [HSet.members_length, ← h.size_eq, h0])

theorem HSet.Inv.chain_of (h : s.Inv hash) (hc : s.cap ≠ 0) (v : β) :
    ∃ ch, s.chains[s.bucket hash v]? = some ch ∧ (v ∈ s.members ↔ v ∈ ch.map (·.2)) := by
  have hb : s.bucket hash v < s.chains.length := Nat.lt_of_lt_of_le (Nat.mod_lt _ (by omega)) h.cap_le
  refine ⟨_, List.getElem?_eq_getElem hb, fun hv => ?_, fun hv => ?_⟩
  · simp only [HSet.members, List.mem_map, List.mem_flatMap, id] at hv
    obtain ⟨e, ⟨ch', hch', he⟩, rfl⟩ := hv
    obtain ⟨b, hb'⟩ := List.mem_iff_getElem?.1 hch'
    have hbe := (h.placed b ch' hb' e he).2
    rw [← hbe, List.getElem?_eq_getElem hb, Option.some.injEq] at hb'
    exact List.mem_map.2 ⟨e, hb' ▸ he, rfl⟩
  · obtain ⟨e, he, rfl⟩ := List.mem_map.1 hv
    exact HSet.mem_members (List.getElem_mem hb) he

theorem HSet.flhReg_alloc (s : HSet β) :
    Slots.Alloc s.free s.seq s.flhReg s.free.tail (if s.free = [] then s.seq + 1 else s.seq) :=
  s.flhReg_eq ▸ Slots.Alloc.head s.free s.seq

theorem HSet.Inv.alloc_eq (h : s.Inv hash) (hlt : s.size < s.cap) :
    s.alloc = .ok ({ s with free := s.free.tail, seq := if s.free = [] then s.seq + 1 else s.seq,
                            size := s.size + 1 }, s.flhReg) := by
  have hsl := h.seq_le
  have hcl := h.cap_le
  have hslt := h.slots_lt
  -- `size + 1 ≤ cap ≤ slots < u32::MAX`
  have hss : s.size + 1 ≤ s.slots := Nat.le_trans hlt hcl
  have hsz : ¬ s.size + 1 > 4294967295 := Nat.not_lt.2 (Nat.le_of_lt (Nat.lt_of_le_of_lt hss hslt))
  unfold HSet.alloc
  rw [s.flhReg_eq]
  cases hf : s.free with
  | cons i rest =>
    -- the head of the free list is a slot in range: `1 ≤ i < seq ≤ cap + 1 ≤ slots + 1`
    have hi := h.range i (by simp [hf])
    have his : ¬ i > s.slots :=
      Nat.not_lt.2 (Nat.le_of_lt_succ (Nat.lt_of_lt_of_le hi.2 (Nat.le_trans hsl (Nat.succ_le_succ hcl))))
    simp only
    rw [if_neg (Nat.ne_of_gt hi.1), if_neg his, if_neg hsz]
    rfl
  | nil =>
    -- nothing released: `seq = size + 1`, so the cursor is neither spent nor past the buffer
    have hq : s.seq = s.size + 1 := by rw [h.size_eq, ← h.slotsOk.length, hf]; rfl
    simp only
    rw [hq, Nat.add_sub_cancel, if_neg (Nat.succ_ne_zero _), if_neg (Nat.ne_of_lt hlt),
      if_neg (Nat.not_lt.2 (Nat.le_trans (Nat.succ_le_succ hss) hslt)), if_neg (Nat.not_lt.2 hss), if_neg hsz]
    rfl

theorem HSet.inv_init (hash : β → Nat) (slots cap : Nat) (h1 : cap ≤ slots) (h2 : slots < 4294967295) :
    (HSet.init slots cap : HSet β).Inv hash := by
  have hf : ((List.replicate slots ([] : List (Nat × β))).flatMap id) = [] := by
    rw [List.flatMap_eq_nil_iff]
    intro x hx
    exact (List.mem_replicate.1 hx).2
  refine ⟨fun b ch hb e he => ?_, ?_, ?_, ?_, ?_, ?_, ?_, ?_, ?_⟩
  · have := List.mem_of_getElem? hb
    simp only [HSet.init] at this
    rw [(List.mem_replicate.1 this).2] at he
    cases he
  all_goals simp [HSet.init, HSet.members, HSet.liveSlots, HSet.slots, hf, h1, h2]

/-- Only the first `cap` records head a chain. -/
theorem HSet.Inv.flatMap_take (h : s.Inv hash) :
    (s.chains.take s.cap).flatMap id = s.chains.flatMap id := by
  have hd : (s.chains.drop s.cap).flatMap id = [] := by
    rw [List.flatMap_eq_nil_iff]
    intro ch hch
    obtain ⟨k, hk⟩ := List.mem_iff_getElem?.1 hch
    rw [List.getElem?_drop] at hk
    cases ch with
    | nil => rfl
    | cons e rest =>
      have := (h.placed _ _ hk e (by simp)).1
      omega
  conv => rhs; rw [← List.take_append_drop s.cap s.chains, List.flatMap_append, hd, List.append_nil]

theorem HSet.iter_spec (h : s.Inv hash) :
    s.iter = s.members ∧ s.iter.Nodup := by
  have he : s.iter = s.members := by rw [HSet.iter, HSet.members, h.flatMap_take]
  exact ⟨he, he ▸ h.nodupVals⟩

/-- `LayoutOk.range` bounds the slots by the buffer (`≤ slots`), `Inv.range` and `Slots.Ok.range` by the cursor (`< seq`). -/
theorem HSet.Inv.layoutOk (h : s.Inv hash) : s.LayoutOk := by
  have h1 := h.seq_le
  have h2 := h.cap_le
  refine ⟨h.nodup, fun i hi => ?_, fun i hi => ?_⟩
  · have := h.range i hi
    omega
  · have := h.range i (List.mem_append_right _ hi)
    omega

section
variable [DecidableEq β]

theorem HSet.chainHas_iff (ch : List (Nat × β)) (v : β) :
    HSet.chainHas ch v = true ↔ v ∈ ch.map (·.2) := by
  simp [HSet.chainHas, List.any_eq_true]

theorem HSet.chainRemove_none {v : β} {ch : List (Nat × β)} (h : HSet.chainRemove v ch = none) :
    ∀ e ∈ ch, e.2 ≠ v := by
  induction ch with
  | nil => simp
  | cons e rest ih =>
    unfold HSet.chainRemove at h
    split at h
    · cases h
    · rename_i hne
      split at h
      · cases h
      · rename_i hn
        exact List.forall_mem_cons.2 ⟨hne, ih hn⟩

theorem HSet.chainRemove_some {v : β} {ch ch' : List (Nat × β)} {i : Nat}
    (h : HSet.chainRemove v ch = some (i, ch')) :
    ∃ pre rest, ch = pre ++ (i, v) :: rest ∧ ch' = pre ++ rest ∧ ∀ e ∈ pre, e.2 ≠ v := by
  induction ch generalizing ch' with
  | nil => simp [HSet.chainRemove] at h
  | cons e rest ih =>
    unfold HSet.chainRemove at h
    split at h
    · rename_i he
      cases h
      exact ⟨[], rest, by rw [← he]; rfl, rfl, by simp⟩
    · rename_i hne
      split at h
      · rename_i j r' hr
        cases h
        obtain ⟨pre, rest', h1, h2, h3⟩ := ih hr
        exact ⟨e :: pre, rest', by rw [h1]; rfl, by rw [h2]; rfl, List.forall_mem_cons.2 ⟨hne, h3⟩⟩
      · cases h

theorem HSet.contains_spec (h : s.Inv hash) (v : β) :
    s.contains hash v = .ok (decide (v ∈ s.members)) := by
  unfold HSet.contains
  by_cases h0 : s.size = 0
  · simp [h0, h.members_eq_nil h0]
  · have hc := h.cap_ne_zero h0
    obtain ⟨ch, hch, hmem⟩ := h.chain_of hc v
    rw [if_neg h0, if_neg hc, hch]
    simp only [Except.ok.injEq]
    rw [Bool.eq_iff_iff, HSet.chainHas_iff, decide_eq_true_iff, hmem]

/-- `insert`: refused (state unchanged) exactly for a member or a full set; otherwise the value joins the members. -/
theorem HSet.insert_spec {hash : β → Nat} {s : HSet β} (h : s.Inv hash) (v : β) :
    ((v ∈ s.members ∨ s.size ≥ s.cap) ∧ s.insert hash v = .ok (s, false)) ∨
    (v ∉ s.members ∧ s.size < s.cap ∧
      ∃ s', s.insert hash v = .ok (s', true) ∧ s'.Inv hash ∧ s'.members.Perm (v :: s.members) ∧
        s'.cap = s.cap ∧ s'.slots = s.slots ∧ s'.size = s.size + 1) := by
  unfold HSet.insert
  by_cases hfull : s.size = s.cap
  · exact .inl ⟨.inr (Nat.le_of_eq hfull.symm), by rw [if_pos hfull]⟩
  have hlt := h.lt_cap hfull
  have hc := Nat.ne_zero_of_lt hlt
  obtain ⟨ch, hch, hmem⟩ := h.chain_of hc v
  rw [← HSet.chainHas_iff] at hmem
  rw [if_neg hfull, if_neg hc]
  simp only [hch]
  by_cases hhas : HSet.chainHas ch v = true
  · exact .inl ⟨.inl (hmem.2 hhas), by rw [if_pos hhas]⟩
  have hv : v ∉ s.members := mt hmem.1 hhas
  have hal := s.flhReg_alloc
  obtain ⟨rest, p1, p2⟩ := flatMap_set_perm s.chains _ ch hch
  have hL : ((s.chains.set (s.bucket hash v) ((s.flhReg, v) :: ch)).flatMap id).Perm
      ((s.flhReg, v) :: s.chains.flatMap id) :=
    (p2 _).trans (p1.symm.cons _)
  have hok := (h.slotsOk.alloc hal).perm (hL.map Prod.fst)
  rw [if_neg hhas, h.alloc_eq hlt]
  refine .inr ⟨hv, hlt, _, rfl, ?_, hL.map Prod.snd, rfl, ?_, rfl⟩
  · exact
      { placed := forall_getElem?_set h.placed fun e he => by
          rcases List.mem_cons.1 he with rfl | he
          · exact ⟨Nat.mod_lt _ (Nat.pos_of_ne_zero hc), rfl⟩
          · exact h.placed _ ch hch e he
        nodupVals := (hL.map Prod.snd).nodup_iff.2 (List.nodup_cons.2 ⟨hv, h.nodupVals⟩)
        size_eq := by show s.size + 1 = _; rw [h.size_eq]; exact (hL.map Prod.fst).length_eq.symm
        nodup := hok.nodup, range := hok.range, count := hok.count
        seq_le := h.slotsOk.alloc_seq_le hal h.seq_le (h.size_eq ▸ hlt)
        cap_le := by show s.cap ≤ (s.chains.set _ _).length; rw [List.length_set]; exact h.cap_le
        slots_lt := by show (s.chains.set _ _).length < _; rw [List.length_set]; exact h.slots_lt }
  · show (s.chains.set _ _).length = _
    rw [List.length_set]; rfl

theorem HSet.remove_spec (h : s.Inv hash) (v : β) :
    (v ∉ s.members ∧ s.remove hash v = .ok (s, false)) ∨
    (v ∈ s.members ∧
      ∃ s', s.remove hash v = .ok (s', true) ∧ s'.Inv hash ∧ s.members.Perm (v :: s'.members) ∧
        s'.cap = s.cap ∧ s'.slots = s.slots ∧ s'.size + 1 = s.size) := by
  unfold HSet.remove
  by_cases h0 : s.size = 0
  · exact .inl ⟨by simp [h.members_eq_nil h0], by rw [if_pos h0]⟩
  have hc := h.cap_ne_zero h0
  obtain ⟨ch, hch, hmem⟩ := h.chain_of hc v
  rw [if_neg h0, if_neg hc]
  simp only [hch]
  cases hr : HSet.chainRemove v ch with
  | none =>
    refine .inl ⟨fun hm => ?_, rfl⟩
    obtain ⟨e, he, hev⟩ := List.mem_map.1 (hmem.1 hm)
    exact HSet.chainRemove_none hr e he hev
  | some p =>
    obtain ⟨i, ch'⟩ := p
    obtain ⟨pre, post, rfl, rfl, _⟩ := HSet.chainRemove_some hr
    obtain ⟨rest, p1, p2⟩ := flatMap_set_perm s.chains _ _ hch
    have hL : (s.chains.flatMap id).Perm
        ((i, v) :: (s.chains.set (s.bucket hash v) (pre ++ post)).flatMap id) :=
      p1.trans ((List.perm_middle.append_right rest).trans ((p2 _).symm.cons _))
    have hok := (h.slotsOk.perm (hL.map Prod.fst).symm).release
    have hsz := (hL.map Prod.fst).length_eq
    rw [← HSet.liveSlots, ← h.size_eq, List.map_cons, List.length_cons] at hsz
    refine .inr ⟨hmem.2 (List.mem_map.2 ⟨(i, v), List.mem_append_right _ List.mem_cons_self, rfl⟩), _, rfl, ?_,
      hL.map Prod.snd, rfl, ?_, ?_⟩
    · exact
        { placed := forall_getElem?_set h.placed fun e he =>
            h.placed _ _ hch e ((List.mem_append.1 he).elim (List.mem_append_left _)
              fun hp => List.mem_append_right _ (List.mem_cons_of_mem _ hp))
          nodupVals := (List.nodup_cons.1 ((hL.map Prod.snd).nodup_iff.1 h.nodupVals)).2
          size_eq := Nat.sub_eq_of_eq_add hsz
          nodup := hok.nodup, range := hok.range, count := hok.count
          seq_le := h.seq_le
          cap_le := by show s.cap ≤ (s.chains.set _ _).length; rw [List.length_set]; exact h.cap_le
          slots_lt := by show (s.chains.set _ _).length < _; rw [List.length_set]; exact h.slots_lt }
    · show (s.chains.set _ _).length = _
      rw [List.length_set]; rfl
    · exact Nat.sub_add_cancel (Nat.pos_of_ne_zero h0)

theorem HSet.Inv.insert (h : s.Inv hash) (v : β) : ∃ s' r, s.insert hash v = .ok (s', r) ∧ s'.Inv hash := by
  rcases HSet.insert_spec h v with ⟨_, he⟩ | ⟨_, _, s', he, hinv, _⟩
  · exact ⟨_, _, he, h⟩
  · exact ⟨_, _, he, hinv⟩

theorem HSet.Inv.remove (h : s.Inv hash) (v : β) : ∃ s' r, s.remove hash v = .ok (s', r) ∧ s'.Inv hash := by
  rcases HSet.remove_spec h v with ⟨_, he⟩ | ⟨_, s', he, hinv, _⟩
  · exact ⟨_, _, he, h⟩
  · exact ⟨_, _, he, hinv⟩

theorem HSet.setStep_refines (h : s.Inv hash) (m : List β)
    (hm : s.members.Perm m) (op : SetOp β) :
    ∃ s', s.setStep hash op = .ok (s', (BSet.step s.cap m op).2) ∧ s'.Inv hash ∧
      s'.members.Perm (BSet.step s.cap m op).1 ∧ s'.cap = s.cap := by
  have hlen : m.length = s.size := by rw [← hm.length_eq, h.size_eq, HSet.members_length]
  cases op with
  | insert v =>
    simp only [HSet.setStep, BSet.step, ← hm.mem_iff, hlen]
    rcases HSet.insert_spec h v with ⟨hc, he⟩ | ⟨hv, hlt, s', he, hi, hp, hcap, _, _⟩
    · rw [if_pos hc, he]
      exact ⟨s, rfl, h, hm, rfl⟩
    · rw [if_neg (fun hc => hc.elim hv (Nat.not_le_of_lt hlt)), he]
      exact ⟨s', rfl, hi, hp.trans (hm.cons v), hcap⟩
  | remove v =>
    simp only [HSet.setStep, BSet.step, ← hm.mem_iff]
    rcases HSet.remove_spec h v with ⟨hv, he⟩ | ⟨hv, s', he, hi, hp, hcap, _, _⟩
    · rw [if_neg hv, he]
      exact ⟨s, rfl, h, hm, rfl⟩
    · rw [if_pos hv, he]
      refine ⟨s', rfl, hi, ?_, hcap⟩
      have := (hm.symm.trans hp).erase v
      rw [List.erase_cons_head] at this
      exact this.symm
  | contains v | size | isEmpty | isFull =>
    simp only [HSet.setStep, BSet.step, HSet.contains_spec h, ← hm.mem_iff, hlen]
    exact ⟨s, rfl, h, hm, rfl⟩

theorem HSet.setRun_refines (h : s.Inv hash) (m : List β)
    (hm : s.members.Perm m) (ops : List (SetOp β)) :
    ∃ s', s.setRun hash ops = .ok (s', (BSet.run s.cap m ops).2) ∧ s'.Inv hash ∧
      s'.members.Perm (BSet.run s.cap m ops).1 := by
  induction ops generalizing s m with
  | nil => exact ⟨s, rfl, h, hm⟩
  | cons op ops ih =>
    obtain ⟨s1, he1, hi1, hp1, hc1⟩ := HSet.setStep_refines h m hm op
    obtain ⟨s2, he2, hi2, hp2⟩ := ih hi1 _ hp1
    refine ⟨s2, ?_, hi2, ?_⟩
    · simp only [HSet.setRun, he1, he2, BSet.run, hc1]
    · simpa only [BSet.run, hc1] using hp2

/-- Exactly `cap - size` further new values fit. -/
theorem HSet.fill_spec {hash : β → Nat} {s : HSet β} (h : s.Inv hash) (vs : List β)
    (hnd : vs.Nodup) (hfresh : ∀ v ∈ vs, v ∉ s.members) (hlen : vs.length + s.size = s.cap) :
    ∃ s', s.insertAll hash vs = some s' ∧ s'.Inv hash ∧ s'.size = s'.cap ∧ s'.cap = s.cap ∧
      ∀ v, s'.insert hash v = .ok (s', false) := by
  induction vs generalizing s with
  | nil =>
    simp only [List.length_nil, Nat.zero_add] at hlen
    refine ⟨s, rfl, h, hlen, rfl, fun v => ?_⟩
    rcases HSet.insert_spec h v with ⟨_, he⟩ | ⟨_, hlt, _⟩
    · exact he
    · omega
  | cons v rest ih =>
    simp only [List.length_cons] at hlen
    rw [List.nodup_cons] at hnd
    rcases HSet.insert_spec h v with ⟨hc, _⟩ | ⟨_, _, s1, he, hi, hp, hcap, _, hsz⟩
    · rcases hc with hc | hc
      · exact absurd hc (hfresh v (by simp))
      · omega
    · obtain ⟨s', h1, h2, h3, h4, h5⟩ := ih hi hnd.2 (by
          intro w hw hm
          rcases List.mem_cons.1 (hp.mem_iff.1 hm) with rfl | hm
          · exact hnd.1 hw
          · exact hfresh w (List.mem_cons_of_mem _ hw) hm) (by omega)
      refine ⟨s', ?_, h2, h3, h4.trans hcap, h5⟩
      simp only [HSet.insertAll, he, h1]

end

/-- No statement uses this type. -/
inductive HSetOp (β : Type) where
  | insert (v : β)
  | remove (v : β)

/-- States reachable from `initialize(cap)` on a zero-filled buffer of `slots ≥ cap` records. -/
inductive HSet.Reach [DecidableEq β] (hash : β → Nat) : HSet β → Prop where
  | init (slots cap : Nat) (h1 : cap ≤ slots) (h2 : slots < 4294967295) : HSet.Reach hash (HSet.init slots cap)
  | insert {s s' : HSet β} (v : β) (r : Bool) (hr : HSet.Reach hash s) (hs : s.insert hash v = .ok (s', r)) :
      HSet.Reach hash s'
  | remove {s s' : HSet β} (v : β) (r : Bool) (hr : HSet.Reach hash s) (hs : s.remove hash v = .ok (s', r)) :
      HSet.Reach hash s'

theorem HSet.reach_inv [DecidableEq β] {hash : β → Nat} {s : HSet β} (h : HSet.Reach hash s) : s.Inv hash := by
  induction h with
  | init slots cap h1 h2 => exact HSet.inv_init hash slots cap h1 h2
  | insert v r hr hs ih => exact Except.of_ok₂ (ih.insert v) hs
  | remove v r hr hs ih => exact Except.of_ok₂ (ih.remove v) hs

end Stevia
