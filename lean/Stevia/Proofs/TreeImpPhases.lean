/-
  Stevia.Proofs.TreeImpPhases — the literal model (`Stevia.Model.TreeImp`) cut into the pieces the proofs
  speak about.  Definitions, and equations that hold by unfolding; nothing here needs an invariant.

  * left and right said once: `Rec.child`, `Imp.rotate`, `Imp.rebalHeavy` take the side as a `Bool`;
    `left_rotate`/`right_rotate` and the two arms of `rebalance` are their two instances, which
    `Imp.rebalanceStep_eq` checks by `rfl`;
  * `remove` cut at the places where `avl_tree.rs` has its `if`s.
-/
import Stevia.Model.TreeImp

namespace Stevia
variable {α β : Type}

/-- The child register on side `b`: `false` = left, `true` = right, as a recorded path entry has it. -/
def Rec.child (r : Rec α β) (b : Bool) : Nat := if b then r.right else r.left

/-- What `update_child` writes. -/
def Rec.link (r : Rec α β) (b : Bool) (c h : Nat) : Rec α β :=
  if b then { r with right := c, height := h } else { r with left := c, height := h }

/-- `left_rotate` (`b = true`) / `right_rotate` (`b = false`): the child on side `b` comes up. -/
def Imp.rotate (d : Rec α β) (m : TreeImage α β) (b : Bool) (index : Nat) : TreeImage α β × Nat :=
  let c := (Imp.rd d m index).child b
  let gc := (Imp.rd d m c).child (!b)
  let m := Imp.updateChild d m index b gc
  let m := Imp.updateChild d m c (!b) index
  (m, c)

/-- The arm of `rebalance` for a node whose child on side `b` is too high (`balance_factor > 1`: `b = false`;
    `< -1`: `b = true`); `p`: that child leans the other way and is rotated first. -/
def Imp.rebalHeavy (d : Rec α β) (m : TreeImage α β) (child : Nat) (b : Bool) (p : Prop) [Decidable p] :
    TreeImage α β × Option Nat :=
  let hv := (Imp.rd d m child).child b
  let m :=
    if p then
      let (m1, idx) := Imp.rotate d m (!b) hv
      Imp.updateChild d m1 child b idx
    else m
  let (m2, idx2) := Imp.rotate d m b child
  (m2, some idx2)

/-- The part of one iteration of `rebalance` that works below the path node; `Some(index)`: the node that came up. -/
def Imp.rebalCore (d : Rec α β) (m : TreeImage α β) (child : Nat) : TreeImage α β × Option Nat :=
  let left := (Imp.rd d m child).left
  let right := (Imp.rd d m child).right
  let bf := Imp.balanceFactor d m left right
  if bf > 1 then
    let ll := (Imp.rd d m left).left
    let lr := (Imp.rd d m left).right
    let lbf := Imp.balanceFactor d m ll lr
    Imp.rebalHeavy d m child false (lbf < 0)
  else if bf < -1 then
    let rl := (Imp.rd d m right).left
    let rr := (Imp.rd d m right).right
    let rbf := Imp.balanceFactor d m rl rr
    Imp.rebalHeavy d m child true (rbf > 0)
  else (Imp.updateHeight d m child, none)

theorem Imp.rebalanceStep_eq (d : Rec α β) (m : TreeImage α β) (parent : Option Nat)
    (branch : Option Bool) (child : Nat) :
    Imp.rebalanceStep d m (parent, branch, child) =
      match (Imp.rebalCore d m child).2 with
      | none => (Imp.rebalCore d m child).1
      | some index =>
        match parent with
        | some p => Imp.updateChild d (Imp.rebalCore d m child).1 p (branch.getD false) index
        | none => Imp.updateHeight d (Imp.setRoot (Imp.rebalCore d m child).1 index) index := rfl

/-- `if let Some(parent) = parent { self.update_child(parent, branch, x) }` for the popped last path entry. -/
def Imp.relinkParent (d : Rec α β) (m : TreeImage α β) (last : Imp.Ancestor) (x : Nat) : TreeImage α β :=
  match last.1 with
  | some p => Imp.updateChild d m p (last.2.1.getD false) x
  | none => m

/-- The child that replaces a node with at most one child. -/
def Imp.selChild (left right : Nat) : Nat :=
  if left = 0 ∧ right = 0 then 0 else if left ≠ 0 then left else right

theorem Imp.selChild_zero_left (b : Nat) : Imp.selChild 0 b = b := by
  unfold Imp.selChild
  by_cases h0 : b = 0 <;> simp [h0]

theorem Imp.selChild_zero_right (a : Nat) : Imp.selChild a 0 = a := by
  unfold Imp.selChild
  by_cases h0 : a = 0 <;> simp [h0]

/-- The `else` branch of `remove`: splice for a node with at most one child (image, path, replacement). -/
def Imp.spliceChild (d : Rec α β) (m : TreeImage α β) (path : List Imp.Ancestor) (child : Nat) :
    TreeImage α β × List Imp.Ancestor × Nat :=
  let last := path.getLast?.getD (none, none, 0)
  let pathInit := path.dropLast
  match last.1 with
  | some p =>
    let ma := Imp.updateChild d m p (last.2.1.getD false) child
    let pa := if child ≠ 0 then pathInit ++ [(some p, last.2.1, child)] else pathInit
    (ma, pa, child)
  | none => (m, pathInit, child)

/-- The `left != SENTINEL && right != SENTINEL` branch of `remove`: splice of the in-order successor. -/
def Imp.spliceTwo (d : Rec α β) (m : TreeImage α β) (path : List Imp.Ancestor) (left right : Nat) :
    TreeImage α β × List Imp.Ancestor × Nat :=
  let w := Imp.leftmostWalk d m (m.recs.length + 1) right 0 []
  let leftmost := w.1
  let leftmostParent := w.2.1
  let inner := w.2.2
  let ma := if leftmostParent ≠ 0 then Imp.updateChild d m leftmostParent false (Imp.rd d m leftmost).right else m
  let mb := Imp.updateChild d ma leftmost false left
  let mc := if right ≠ leftmost then Imp.updateChild d mb leftmost true right else mb
  let last := path.getLast?.getD (none, none, 0)
  let pathInit := path.dropLast
  let md := Imp.relinkParent d mc last leftmost
  let pa := pathInit ++ [(last.1, last.2.1, leftmost)]
  let pb := if right ≠ leftmost then pa ++ [(some leftmost, some true, right)] else pa
  let pc := pb ++ inner.dropLast
  (md, pc, leftmost)

/-- What follows either splice: root word, `rebalance`, `remove_node`. -/
def Imp.removeFinish (d : Rec α β) (nodeIndex : Nat) (x : TreeImage α β × List Imp.Ancestor × Nat) :
    TreeImage α β × Option β :=
  let m2 := if nodeIndex = x.1.hdr.root then Imp.setRoot x.1 x.2.2 else x.1
  let m3 := Imp.rebalance d m2 x.2.1
  ((Imp.removeNode d m3 nodeIndex).1, some (Imp.removeNode d m3 nodeIndex).2)

theorem Imp.remove_unfold [LinOrd α] (d : Rec α β) (m : TreeImage α β) (key : α) :
    Imp.remove d m key =
      if m.hdr.root = 0 then (m, none)
      else
        let dr := Imp.removeDescend d m key (m.recs.length + 1) m.hdr.root [(none, none, m.hdr.root)]
        if dr.1 = 0 then (m, none)
        else
          Imp.removeFinish d dr.1
            (if (Imp.rd d m dr.1).left ≠ 0 ∧ (Imp.rd d m dr.1).right ≠ 0 then
              Imp.spliceTwo d m dr.2 (Imp.rd d m dr.1).left (Imp.rd d m dr.1).right
            else Imp.spliceChild d m dr.2 (Imp.selChild (Imp.rd d m dr.1).left (Imp.rd d m dr.1).right)) := by
  rfl

section
open Imp

theorem Imp.wr_wr (m : TreeImage α β) (i : Nat) (f g : Rec α β → Rec α β) :
    wr (wr m i f) i g = wr m i (g ∘ f) := by
  unfold wr
  split
  · rfl
  · simp [List.modify_modify_eq]

@[simp] theorem Imp.wr_hdr (m : TreeImage α β) (i : Nat) (f : Rec α β → Rec α β) : (wr m i f).hdr = m.hdr := by
  unfold wr; split <;> rfl

@[simp] theorem Imp.wr_recs_length (m : TreeImage α β) (i : Nat) (f : Rec α β → Rec α β) :
    (wr m i f).recs.length = m.recs.length := by
  unfold wr; split <;> simp

end

end Stevia
