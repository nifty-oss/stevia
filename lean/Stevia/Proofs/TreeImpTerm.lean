/-
  Stevia.Proofs.TreeImpTerm — the loops of the tree files terminate: the predicates of Stevia/Model/TreeImpTerm.lean
  (`Imp.findT`, `Imp.leftT`, `Imp.insertT`, `Imp.removeTerm`) hold on the register layout of every well-formed state.
-/
import Stevia.Model.TreeImpTerm
import Stevia.Proofs.TreeImpEq
import Stevia.Proofs.TreeImpRemove

namespace Stevia
variable {α β : Type} [LinOrd α]

theorem Imp.findT_image (c : TreeCfg) (kd : α) (vd : β) (s : Tree α β) (h : s.Inv c) (k : α) :
    Imp.findT (Imp.dflt kd vd) (s.image c kd vd) k (s.slots + 1) s.root.slot = true :=
  (search_image c kd vd s h k).1

theorem Imp.leftT_image (c : TreeCfg) (kd : α) (vd : β) (s : Tree α β) (h : s.Inv c) :
    s.root.slot = 0 ∨ Imp.leftT (Imp.dflt kd vd) (s.image c kd vd) (s.slots + 1) s.root.slot = true := by
  have ho := h.own kd vd
  have hht := h.height_le
  rw [Tree.image_eq_mkImg]
  cases hroot : s.root with
  | nil => exact Or.inl rfl
  | node i l k v hh r =>
    rw [hroot] at ho hht
    exact Or.inr (leftmostWalk_rep _ _ l i k v hh r _ 0 [] ho (Nat.le_succ_of_le hht)).1

theorem Imp.insertT_image (c : TreeCfg) (kd : α) (vd : β) (s : Tree α β) (h : s.Inv c) (k : α) :
    s.root.slot = 0 ∨ Imp.insertT (Imp.dflt kd vd) (s.image c kd vd) k (s.slots + 1) s.root.slot = true := by
  by_cases hroot : s.root = .nil
  · exact Or.inl (by rw [hroot]; rfl)
  · exact Or.inr (insertDescend_image c kd vd s h k hroot).1

theorem Imp.removeTerm_image (c : TreeCfg) (kd : α) (vd : β) (s : Tree α β) (h : s.Inv c) (k : α) :
    Imp.removeTerm (Imp.dflt kd vd) (s.image c kd vd) k = true := by
  obtain ⟨hT, _, hD⟩ := search_image c kd vd s h k
  simp only [Imp.removeTerm, Imp.removeT, Tree.image_hdr_root, Tree.image_recs_length]
  split
  · rfl
  · rw [hT, Bool.true_and, hD, Tree.image_eq_mkImg]
    have hoF := (h.ownZ_focus kd vd k).own
    cases hfoc : s.root.focus k with
    | nil => rfl
    | node ni L nk nv nh R =>
      rw [hfoc] at hoF
      simp only [T.slot_node, hoF.rd _ _, T.rc, if_neg hoF.slot_ne_zero]
      split
      · rename_i h2
        cases R with
        | nil => exact absurd rfl h2.2
        | node ri rl rk rv rh rr =>
          exact (leftmostWalk_rep _ _ rl ri rk rv rh rr _ 0 [] hoF.right
            (Nat.le_succ_of_le hoF.right.height_le)).1
      · rfl

end Stevia
