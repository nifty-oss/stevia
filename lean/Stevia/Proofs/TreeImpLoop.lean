/-
  Stevia.Proofs.TreeImpLoop — the recorded ancestor path is a zipper context, and `rebalance` walks it outwards.

  `RepCtx` says nothing about the height registers of the frames: `rebalance` recomputes the height register of a
  path node (in `update_height`, or in the `update_child`s of a rotation) before anything reads it, so between the
  splice and the loop, and between two iterations, those registers may hold anything.
-/
import Stevia.Model.TreeImpTerm
import Stevia.Proofs.TreeImpRebal

namespace Stevia
variable {α β : Type}

/-- Plug a tree into a context (innermost frame first). -/
def plug : List (Frame α β) → T α β → T α β
  | [], t => t
  | fr :: ctx, t => plug ctx (fr.node fr.h t)

/-- What `rebalance` computes. -/
def up : List (Frame α β) → T α β → T α β
  | [], t => t
  | fr :: ctx, t => up ctx (fr.rebal t)

/-- The memory holds the records of the frames, with `s` in the innermost hole and whatever height registers,
    and represents the siblings. -/
def RepCtx (f : Nat → Rec α β) : List (Frame α β) → Nat → Prop
  | [], _ => True
  | fr :: ctx, s => f fr.i = fr.rc (f fr.i).height s ∧ Rep f fr.sib ∧ RepCtx f ctx fr.i

/-- The slots a context owns: the node of every frame and the sibling subtree that hangs off it. -/
def slotsC : List (Frame α β) → List Nat
  | [] => []
  | fr :: ctx => fr.i :: fr.sib.slots ++ slotsC ctx

@[simp] theorem slotsC_nil : slotsC ([] : List (Frame α β)) = [] := rfl

@[simp] theorem slotsC_cons (fr : Frame α β) (ctx : List (Frame α β)) :
    slotsC (fr :: ctx) = fr.i :: fr.sib.slots ++ slotsC ctx := rfl

/-- The recorded path from the node in the hole (slot `s`) to the root, in the order `rebalance` visits it. -/
def pathOf : List (Frame α β) → Nat → List Imp.Ancestor
  | [], s => [(none, none, s)]
  | fr :: ctx, s => (some fr.i, some fr.dir, s) :: pathOf ctx fr.i

/-- The recorded path from the node of the innermost frame to the root. -/
def pathUp : List (Frame α β) → List Imp.Ancestor
  | [] => []
  | fr :: ctx => pathOf ctx fr.i

/-- Slot of the root of `plug ctx t` when `t.slot = s`. -/
def rootSlot : List (Frame α β) → Nat → Nat
  | [], s => s
  | fr :: ctx, _ => rootSlot ctx fr.i

@[simp] theorem rootSlot_nil (s : Nat) : rootSlot ([] : List (Frame α β)) s = s := rfl

/-- The root slot of a non-empty context does not depend on what is in the hole. -/
@[simp] theorem rootSlot_cons (fr : Frame α β) (ctx : List (Frame α β)) (s : Nat) :
    rootSlot (fr :: ctx) s = rootSlot ctx fr.i := rfl

/-- One recorded entry per frame: `pathOf` without the entry of the root. -/
def pathFrames : List (Frame α β) → Nat → List Imp.Ancestor
  | [], _ => []
  | fr :: ctx, s => (some fr.i, some fr.dir, s) :: pathFrames ctx fr.i

/-- The zipper `(ctx, t)` is in memory, the register of the innermost hole holding `s`: `t.slot`, or still the
    slot of what a rotation or a splice has just replaced by `t`. -/
structure OwnZ (n : Nat) (f : Nat → Rec α β) (ctx : List (Frame α β)) (s : Nat) (t : T α β) : Prop where
  rep : Rep f t
  repCtx : RepCtx f ctx s
  valid : Valid n (t.slots ++ slotsC ctx)

variable {n : Nat} {f : Nat → Rec α β}

theorem OwnZ.own {ctx : List (Frame α β)} {s : Nat} {t : T α β}
    (hz : OwnZ n f ctx s t) : Own n f t := ⟨hz.rep, hz.valid.left⟩

theorem RepCtx.agree {X : List Nat} {f' : Nat → Rec α β} {ctx : List (Frame α β)} {s : Nat}
    (hr : RepCtx f ctx s) (a : Agree X f' f) (hd : ∀ j ∈ slotsC ctx, j ∉ X) : RepCtx f' ctx s := by
  induction ctx generalizing s with
  | nil => trivial
  | cons fr ctx ih =>
    obtain ⟨h1, h2, h3⟩ := hr
    have hi := a fr.i (hd _ (by simp))
    exact ⟨by rw [hi]; exact h1, h2.agree a (fun j hj => hd j (by simp [hj])),
      ih h3 (fun j hj => hd j (by simp [hj]))⟩

theorem RepCtx.agree₁ {i : Nat} {f' : Nat → Rec α β} {ctx : List (Frame α β)} {s : Nat}
    (hr : RepCtx f ctx s) (a : Agree [i] f' f) (hni : i ∉ slotsC ctx) : RepCtx f' ctx s :=
  hr.agree a fun _ hj hm => hni (List.mem_singleton.1 hm ▸ hj)

theorem OwnZ.agree {X : List Nat} {f' : Nat → Rec α β} {ctx : List (Frame α β)} {s : Nat} {t : T α β}
    (hz : OwnZ n f ctx s t) (a : Agree X f' f) (hd : ∀ j ∈ t.slots ++ slotsC ctx, j ∉ X) : OwnZ n f' ctx s t :=
  ⟨hz.rep.agree a (fun j hj => hd j (List.mem_append_left _ hj)),
    hz.repCtx.agree a (fun j hj => hd j (List.mem_append_right _ hj)), hz.valid⟩

theorem slots_cons_perm (fr : Frame α β) (ctx : List (Frame α β)) (h : Nat) (t : T α β) :
    ((fr.node h t).slots ++ slotsC ctx).Perm (t.slots ++ slotsC (fr :: ctx)) := by
  refine ((fr.slots_node_perm h t).append_right _).trans ?_
  simp

theorem slot_plug (ctx : List (Frame α β)) (t : T α β) : (plug ctx t).slot = rootSlot ctx t.slot := by
  induction ctx generalizing t with
  | nil => rfl
  | cons fr ctx ih => simp [plug, ih]

theorem slots_plug_perm (ctx : List (Frame α β)) (t : T α β) :
    (plug ctx t).slots.Perm (t.slots ++ slotsC ctx) := by
  induction ctx generalizing t with
  | nil => simp [plug]
  | cons fr ctx ih => exact (ih (fr.node fr.h t)).trans (slots_cons_perm fr ctx fr.h t)

theorem slots_up_perm (ctx : List (Frame α β)) (t : T α β) :
    (up ctx t).slots.Perm (t.slots ++ slotsC ctx) := by
  induction ctx generalizing t with
  | nil => simp [up]
  | cons fr ctx ih =>
    refine (ih (fr.rebal t)).trans ?_
    rw [fr.slots_rebal 0]
    exact slots_cons_perm fr ctx 0 t

theorem plug_append (a b : List (Frame α β)) (t : T α β) : plug (a ++ b) t = plug b (plug a t) := by
  induction a generalizing t with
  | nil => rfl
  | cons fr a ih => simp [plug, ih]

theorem bal_of_plug {ctx : List (Frame α β)} {t : T α β} (hb : (plug ctx t).Bal) : t.Bal := by
  induction ctx generalizing t with
  | nil => exact hb
  | cons fr ctx ih =>
    exact Frame.bal_node (ih hb)

theorem up_append (a b : List (Frame α β)) (t : T α β) : up (a ++ b) t = up b (up a t) := by
  induction a generalizing t with
  | nil => rfl
  | cons fr a ih => simp [up, ih]

@[simp] theorem slotsC_append (a b : List (Frame α β)) : slotsC (a ++ b) = slotsC a ++ slotsC b := by
  induction a with
  | nil => rfl
  | cons fr a ih => simp [ih]

theorem rootSlot_append (a b : List (Frame α β)) (s : Nat) :
    rootSlot (a ++ b) s = rootSlot b (rootSlot a s) := by
  induction a generalizing s with
  | nil => rfl
  | cons fr a ih => simp [ih]

theorem rootSlot_mem (fr : Frame α β) (ctx : List (Frame α β)) (s : Nat) :
    rootSlot (fr :: ctx) s ∈ slotsC (fr :: ctx) := by
  induction ctx generalizing fr s with
  | nil => simp
  | cons fr' ctx ih =>
    have := ih fr' fr.i
    simp only [rootSlot_cons, slotsC_cons] at this ⊢
    exact List.mem_append_right _ this

theorem pathOf_eq (ctx : List (Frame α β)) (s : Nat) :
    pathOf ctx s = (ctx.head?.map (·.i), ctx.head?.map (·.dir), s) :: pathUp ctx := by
  cases ctx <;> rfl

theorem pathOf_append (a b : List (Frame α β)) (s : Nat) :
    pathOf (a ++ b) s = pathFrames a s ++ pathOf b (rootSlot a s) := by
  induction a generalizing s with
  | nil => rfl
  | cons fr a ih => simp [pathOf, pathFrames, ih]

theorem pathFrames_append (a b : List (Frame α β)) (s : Nat) :
    pathFrames (a ++ b) s = pathFrames a s ++ pathFrames b (rootSlot a s) := by
  induction a generalizing s with
  | nil => rfl
  | cons fr a ih => simp [pathFrames, ih]

theorem repCtx_append (a b : List (Frame α β)) (s : Nat) :
    RepCtx f (a ++ b) s ↔ RepCtx f a s ∧ RepCtx f b (rootSlot a s) := by
  induction a generalizing s with
  | nil => simp [RepCtx]
  | cons fr a ih => simp [RepCtx, ih, and_assoc]

theorem rep_plug (ctx : List (Frame α β)) (t : T α β) (hr : Rep f (plug ctx t)) :
    Rep f t ∧ RepCtx f ctx t.slot := by
  induction ctx generalizing t with
  | nil => exact ⟨hr, trivial⟩
  | cons fr ctx ih =>
    obtain ⟨h1, h2⟩ := ih (fr.node fr.h t) hr
    obtain ⟨h3, h4, h5⟩ := (fr.rep_node fr.h t).1 h1
    rw [Frame.slot_node] at h2
    exact ⟨h4, Frame.rc_self h3, h5, h2⟩

theorem Own.zip (ctx : List (Frame α β)) (t : T α β)
    (ho : Own n f (plug ctx t)) : OwnZ n f ctx t.slot t :=
  have ⟨ht, hctx⟩ := rep_plug ctx t ho.rep
  ⟨ht, hctx, ho.valid.perm (slots_plug_perm ctx t).symm⟩

theorem OwnZ.zip {ctx : List (Frame α β)} (sp : List (Frame α β)) (t : T α β)
    (hz : OwnZ n f ctx (plug sp t).slot (plug sp t)) : OwnZ n f (sp ++ ctx) t.slot t := by
  obtain ⟨h1, h2⟩ := rep_plug sp t hz.rep
  refine ⟨h1, (repCtx_append sp ctx t.slot).2 ⟨h2, by rw [← slot_plug]; exact hz.repCtx⟩, ?_⟩
  rw [slotsC_append, ← List.append_assoc]
  exact hz.valid.perm ((slots_plug_perm sp t).symm.append_right _)

variable (d : Rec α β) (hdr : Hdr)

theorem RepCtx.relink_slot {fr : Frame α β}
    {ctx : List (Frame α β)} {s : Nat} (x : Nat) (hr : RepCtx f (fr :: ctx) s)
    (hv : Valid n (slotsC (fr :: ctx))) :
    ∃ f', Imp.updateChild d (mkImg hdr n f) fr.i fr.dir x = mkImg hdr n f' ∧
      RepCtx f' (fr :: ctx) x ∧ Agree [fr.i] f' f := by
  obtain ⟨h1, h2, h3⟩ := hr
  obtain ⟨hi, hni, _⟩ := valid_cons.1 hv
  obtain ⟨H, e⟩ := updateChild_link d hdr n f fr.dir x hi.1 hi.2
  have a : Agree [fr.i] (upd f fr.i ((f fr.i).link fr.dir x H)) f := agree_upd _ _ (by simp)
  refine ⟨_, e, ⟨?_, h2.agree₁ a (fun hm => hni (List.mem_append_left _ hm)),
    h3.agree₁ a (fun hm => hni (List.mem_append_right _ hm))⟩, a⟩
  rw [upd_same, h1, fr.link_rc, fr.rc_height]

/-- `update_child` at the innermost frame puts any represented tree `t` with fresh slots into the hole. -/
theorem RepCtx.relink {fr : Frame α β}
    {ctx : List (Frame α β)} {s : Nat} {t : T α β} (hr : RepCtx f (fr :: ctx) s) (ht : Rep f t)
    (hv : Valid n (t.slots ++ slotsC (fr :: ctx))) :
    ∃ f', Imp.updateChild d (mkImg hdr n f) fr.i fr.dir t.slot = mkImg hdr n f' ∧
      OwnZ n f' (fr :: ctx) t.slot t ∧ Agree [fr.i] f' f := by
  obtain ⟨f', e, r, a⟩ := RepCtx.relink_slot d hdr t.slot hr hv.right
  exact ⟨f', e, ⟨ht.agree₁ a (fun hm => hv.disjoint _ hm (by simp)), r, hv⟩, a⟩

/-- The fold of `rebalance` over the recorded path, peeled once.  `hroot` — the root word holds the slot of the
    root — lets the step leave the header alone unless a rotation has replaced the root. -/
theorem rebalanceStep_zip (fr : Frame α β)
    (ctx : List (Frame α β)) {t : T α β} (hz : OwnZ n f (fr :: ctx) t.slot t)
    (hroot : hdr.root = rootSlot ctx fr.i) :
    ∃ f', (pathOf ctx fr.i).foldl (Imp.rebalanceStep d) (mkImg hdr n f) =
        (pathUp ctx).foldl (Imp.rebalanceStep d)
          (mkImg { hdr with root := rootSlot ctx (fr.rebal t).slot } n f') ∧
      OwnZ n f' ctx (fr.rebal t).slot (fr.rebal t) ∧ Agree (t.slots ++ slotsC (fr :: ctx)) f' f := by
  obtain ⟨ht, ⟨hfr, hsib, hctx⟩, hv⟩ := hz
  have hp := slots_cons_perm fr ctx (f fr.i).height t
  have hvN := hv.perm hp
  obtain ⟨f1, o, e1, r1, a1, ho⟩ := rebalCore_rep d hdr fr
    ⟨(fr.rep_node _ t).2 ⟨hfr, ht, hsib⟩, hvN.left⟩
  have hsl := fr.slots_rebal (f fr.i).height t
  have hz1 : OwnZ n f1 ctx fr.i (fr.rebal t) :=
    ⟨r1, hctx.agree a1 (fun j hj hm => hvN.disjoint j hm hj), by rw [hsl]; exact hvN⟩
  have a1' : Agree (t.slots ++ slotsC (fr :: ctx)) f1 f :=
    a1.mono (fun j hj => hp.mem_iff.1 (List.mem_append_left _ hj))
  cases o with
  | none =>
    -- no rotation: the node keeps its place, nothing to fix above it
    simp only [Option.getD_none] at ho
    rw [← ho, hdr.root_self hroot]
    refine ⟨f1, ?_, hz1, a1'⟩
    cases ctx <;> simp only [pathOf, pathUp, List.foldl_cons, Imp.rebalanceStep_eq, e1]
  | some idx =>
    simp only [Option.getD_some] at ho
    subst ho
    cases ctx with
    | nil =>
      -- the root word is written; `update_height` finds the height register already right
      obtain ⟨j, l', k', v', r', hmk⟩ : ∃ j l' k' v' r', fr.rebal t = T.mk j l' k' v' r' := by
        obtain ⟨l, r, -, hr⟩ := fr.plain 0 t
        exact hr ▸ T.rebal_eq_mk _ _ _ _ _
      simp only [pathOf, pathUp, List.foldl_cons, List.foldl_nil, Imp.rebalanceStep_eq, e1, rootSlot_nil,
        setRoot_mkImg]
      rw [hmk] at hz1 ⊢
      obtain ⟨f2, e2, r2, a2⟩ := updateHeight_rep d { hdr with root := j } (n := n) (f := f1)
        ⟨hz1.rep, by simpa [T.mk] using hz1.valid⟩
      exact ⟨f2, e2, ⟨r2, trivial, hz1.valid⟩,
        (a2.mono₁ (hp.mem_iff.1 (List.mem_append_left _ (by rw [← hsl, hmk]; simp [T.mk])))).trans a1'⟩
    | cons fr2 rest =>
      obtain ⟨f2, e2, hz2, a2⟩ := RepCtx.relink d hdr hz1.repCtx hz1.rep hz1.valid
      refine ⟨f2, ?_, hz2, (a2.mono₁ (List.mem_append_right _ (by simp))).trans a1'⟩
      rw [rootSlot_cons] at hroot ⊢
      rw [hdr.root_self hroot]
      simp only [pathOf, pathUp, List.foldl_cons, Imp.rebalanceStep_eq, e1, Option.getD_some, e2]

/-- `rebalance` over the path of a zipper in memory computes `up ctx t`, whatever the focus `t`; the root word
    follows. -/
theorem rebalance_loop (ctx : List (Frame α β)) (f : Nat → Rec α β) (t : T α β) (hz : OwnZ n f ctx t.slot t)
    (hroot : hdr.root = rootSlot ctx t.slot) :
    ∃ f', Imp.rebalance d (mkImg hdr n f) (pathUp ctx).reverse = mkImg { hdr with root := (up ctx t).slot } n f' ∧
      Rep f' (up ctx t) ∧ Agree (t.slots ++ slotsC ctx) f' f := by
  rw [Imp.rebalance, List.reverse_reverse]
  induction ctx generalizing hdr f t with
  | nil => exact ⟨f, by rw [up, hdr.root_self (x := t.slot) hroot]; rfl, hz.rep, Agree.refl _ _⟩
  | cons fr ctx ih =>
    obtain ⟨f1, e1, hz1, a1⟩ := rebalanceStep_zip d hdr fr ctx hz hroot
    obtain ⟨f2, e2, r2, a2⟩ := ih { hdr with root := rootSlot ctx (fr.rebal t).slot } f1 (fr.rebal t) hz1 rfl
    refine ⟨f2, by rw [pathUp, e1, e2]; rfl, r2, (a2.mono ?_).trans a1⟩
    intro j hj
    rw [fr.slots_rebal 0] at hj
    exact (slots_cons_perm fr ctx 0 t).mem_iff.1 hj

section Descend
variable [LinOrd α]

/-- The zipper of the search path for `key` (innermost frame first), on top of `ctx`. -/
def T.descend (key : α) : T α β → List (Frame α β) → List (Frame α β)
  | .nil, ctx => ctx
  | .node i l k v h r, ctx =>
    if key < k then T.descend key l (⟨i, k, v, h, false, r⟩ :: ctx)
    else if k < key then T.descend key r (⟨i, k, v, h, true, l⟩ :: ctx)
    else ctx

/-- The subtree whose root holds `key` (`nil` if absent). -/
def T.focus (key : α) : T α β → T α β
  | .nil => .nil
  | .node i l k v h r =>
    if key < k then T.focus key l
    else if k < key then T.focus key r
    else .node i l k v h r

theorem T.plug_descend (key : α) (t : T α β) (ctx : List (Frame α β)) :
    plug (t.descend key ctx) (t.focus key) = plug ctx t := by
  induction t generalizing ctx with
  | nil => rfl
  | node i l k v h r ihl ihr =>
    simp only [T.descend, T.focus]
    split
    · rw [ihl]; rfl
    · split
      · rw [ihr]; rfl
      · rfl

theorem T.find_eq_focus (key : α) (t : T α β) :
    t.find key = match t.focus key with
      | .nil => none
      | .node i _ _ v _ _ => some (i, v) := by
  induction t with
  | nil => rfl
  | node j l k' v' h r ihl ihr =>
    simp only [T.find, T.focus]
    split
    · exact ihl
    · split
      · exact ihr
      · rfl

/-- The descents of `find` and `remove` end within `height + 1` iterations at the node that holds the key (0 if there
    is none); `remove` records the zipper of the search path. -/
theorem search_rep (key : α) :
    ∀ (t : T α β) (fuel : Nat) (ctx : List (Frame α β)), Own n f t → t.height < fuel →
      Imp.findT d (mkImg hdr n f) key fuel t.slot = true ∧
      Imp.find d (mkImg hdr n f) key fuel t.slot = (t.find key).map (·.1) ∧
      Imp.removeDescend d (mkImg hdr n f) key fuel t.slot (pathOf ctx t.slot).reverse =
        ((t.focus key).slot, (pathOf (t.descend key ctx) (t.focus key).slot).reverse) := by
  intro t
  induction t with
  | nil =>
    intro fuel ctx _ hf
    obtain ⟨fuel, rfl⟩ := Nat.exists_eq_add_one.2 (Nat.zero_lt_of_lt hf)
    simp [Imp.findT, Imp.find, Imp.removeDescend, T.find, T.focus, T.descend]
  | node i l k v h r ihl ihr =>
    intro fuel ctx ho hf
    simp only [T.height] at hf
    obtain ⟨fuel, rfl⟩ := Nat.exists_eq_add_one.2 (Nat.zero_lt_of_lt hf)
    have hf' := Nat.lt_of_succ_lt_succ hf
    simp only [Imp.findT, Imp.find, Imp.removeDescend, T.slot_node, ho.rd d hdr, T.rc, T.find, T.descend,
      T.focus, if_neg ho.slot_ne_zero]
    by_cases h1 : key < k
    · simp only [if_pos h1]
      simpa [pathOf] using ihl fuel (⟨i, k, v, h, false, r⟩ :: ctx) ho.left
        (Nat.lt_of_le_of_lt (Nat.le_max_left _ _) hf')
    · simp only [if_neg h1]
      by_cases h2 : k < key
      · simp only [if_pos h2]
        simpa [pathOf] using ihr fuel (⟨i, k, v, h, true, l⟩ :: ctx) ho.right
          (Nat.lt_of_le_of_lt (Nat.le_max_right _ _) hf')
      · simp [if_neg h2]

/-- `search_rep` on the layout of a well-formed state: from the root, with the budget and the initial path of the
    literal model. -/
theorem search_image (c : TreeCfg) (kd : α) (vd : β) (s : Tree α β) (h : s.Inv c) (k : α) :
    Imp.findT (Imp.dflt kd vd) (s.image c kd vd) k (s.slots + 1) s.root.slot = true ∧
    Imp.find (Imp.dflt kd vd) (s.image c kd vd) k (s.slots + 1) s.root.slot = (s.root.find k).map (·.1) ∧
    Imp.removeDescend (Imp.dflt kd vd) (s.image c kd vd) k (s.slots + 1) s.root.slot [(none, none, s.root.slot)] =
      ((s.root.focus k).slot, (pathOf (s.root.descend k []) (s.root.focus k).slot).reverse) :=
  search_rep _ (s.hdr c) k s.root _ [] (h.own kd vd) (Nat.lt_succ_of_le h.height_le)

/-- The zipper of the search path, focused where the search ends, is in the layout. -/
theorem Tree.Inv.ownZ_focus {c : TreeCfg} {s : Tree α β} (h : s.Inv c) (kd : α) (vd : β) (k : α) :
    OwnZ s.slots (s.recAt c kd vd) (s.root.descend k []) (s.root.focus k).slot (s.root.focus k) :=
  Own.zip _ _ (by rw [T.plug_descend]; exact h.own kd vd)

end Descend

end Stevia
