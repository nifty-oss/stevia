/-
  Stevia.Proofs.TreeAvl — the AVL core: rotations preserve the in-order list,
  insertion / deletion preserve balance with exact height registers and act on
  the in-order list as the sorted-list reference operations.  Everything else the
  state level wants to know of a tree it reads off that list: order, size, the
  slots in use, the smallest key.
  Statements that the property files or DESIGN.md cite (`findL_delL_self`, `ht_mk`, `slot_mk`, `slots_nil`,
  `left_node`, `right_node`, …) stand in their cited form even where no proof here uses them.
-/
import Stevia.Proofs.TreeDefs

namespace Stevia

section ListLemmas
variable {α β : Type} [LinOrd α] {l r : List (Entry α β)} {k k' : α} {v : β} {e x y : Entry α β}

theorem sortedE_iff_pairwise : SortedE l ↔ l.Pairwise (fun a b => a.2.1 < b.2.1) := by
  induction l with
  | nil => simp [SortedE]
  | cons a l ih => rw [SortedE, List.pairwise_cons, ih]

theorem sortedE_append (l r : List (Entry α β)) :
    SortedE (l ++ r) ↔ SortedE l ∧ SortedE r ∧ ∀ x ∈ l, ∀ y ∈ r, x.2.1 < y.2.1 := by
  simp only [sortedE_iff_pairwise, List.pairwise_append]

theorem findL_none_of_gt (h : ∀ y ∈ r, k < y.2.1) : findL k r = none := by
  induction r with
  | nil => rfl
  | cons x rest ih =>
    rw [List.forall_mem_cons] at h
    simp only [findL, h.1, or_true, if_true, ih h.2]

theorem findL_append_of_lt (h : ∀ x ∈ l, x.2.1 < k) : findL k (l ++ r) = findL k r := by
  induction l with
  | nil => rfl
  | cons x rest ih =>
    rw [List.forall_mem_cons] at h
    simp only [List.cons_append, findL, h.1, true_or, if_true, ih h.2]

theorem findL_append_of_gt (h : ∀ y ∈ r, k < y.2.1) : findL k (l ++ r) = findL k l := by
  induction l with
  | nil => exact findL_none_of_gt h
  | cons x rest ih => simp only [List.cons_append, findL, ih]

theorem perm_insL (e : Entry α β) (l : List (Entry α β)) : (insL e l).Perm (e :: l) := by
  induction l with
  | nil => simp [insL]
  | cons x rest ih =>
    simp only [insL]; split
    · exact List.Perm.refl _
    · exact (List.Perm.cons x ih).trans (List.Perm.swap e x rest)

theorem length_insL (e : Entry α β) (l : List (Entry α β)) : (insL e l).length = l.length + 1 :=
  (perm_insL e l).length_eq

theorem mem_insL : y ∈ insL e l ↔ y = e ∨ y ∈ l := by
  rw [(perm_insL e l).mem_iff, List.mem_cons]

theorem sorted_insL (hs : SortedE l) (e : Entry α β) (hf : findL e.2.1 l = none) : SortedE (insL e l) := by
  induction l with
  | nil => simp [insL, SortedE]
  | cons x rest ih =>
    rw [findL] at hf
    split at hf
    · rename_i h
      rw [insL]
      split
      · rename_i hlt
        exact ⟨List.forall_mem_cons.2 ⟨hlt, fun e' he' => LinOrd.trans hlt (hs.1 e' he')⟩, hs⟩
      · rename_i hnlt
        refine ⟨fun e' he' => ?_, ih hs.2 hf⟩
        rcases mem_insL.1 he' with rfl | he'
        · exact h.resolve_right hnlt
        · exact hs.1 e' he'
    · cases hf

theorem findL_insL_self (e : Entry α β) (hf : findL e.2.1 l = none) :
    findL e.2.1 (insL e l) = some (e.1, e.2.2) := by
  have hirr : ¬ (e.2.1 < e.2.1 ∨ e.2.1 < e.2.1) := fun h => LinOrd.irrefl _ (h.elim id id)
  induction l with
  | nil => simp only [insL, findL, hirr, if_false]
  | cons x rest ih =>
    by_cases h : x.2.1 < e.2.1 ∨ e.2.1 < x.2.1
    · simp only [findL, h, if_true] at hf
      simp only [insL]
      split
      · simp only [findL, hirr, if_false]
      · simp only [findL, h, if_true]
        exact ih hf
    · simp [findL, h] at hf

theorem findL_insL_other (e : Entry α β) (hk : k < e.2.1 ∨ e.2.1 < k) : findL k (insL e l) = findL k l := by
  have hk' : e.2.1 < k ∨ k < e.2.1 := hk.symm
  induction l with
  | nil => simp only [insL, findL, hk', if_true]
  | cons x rest ih =>
    simp only [insL]
    split
    · simp only [findL, hk', if_true]
    · simp only [findL, ih]

theorem insL_append_of_lt (h : ∀ x ∈ l, x.2.1 < e.2.1) : insL e (l ++ r) = l ++ insL e r := by
  induction l with
  | nil => rfl
  | cons x rest ih =>
    rw [List.forall_mem_cons] at h
    simp only [List.cons_append, insL, LinOrd.asymm h.1, if_false, ih h.2]

theorem insL_append_cons_of_gt (h : e.2.1 < x.2.1) : insL e (l ++ x :: r) = insL e l ++ x :: r := by
  induction l with
  | nil => simp only [List.nil_append, insL, h, if_true, List.cons_append]
  | cons y rest ih =>
    simp only [List.cons_append, insL]
    split
    · rfl
    · rw [ih]; rfl

theorem delL_sublist : (delL k l).Sublist l := by
  induction l with
  | nil => exact .slnil
  | cons x rest ih =>
    rw [delL]
    split
    · exact ih.cons_cons x
    · exact List.sublist_cons_self x rest

theorem sorted_delL (hs : SortedE l) (k : α) : SortedE (delL k l) :=
  sortedE_iff_pairwise.2 ((sortedE_iff_pairwise.1 hs).sublist delL_sublist)

theorem delL_of_none (hf : findL k l = none) : delL k l = l := by
  induction l with
  | nil => rfl
  | cons x rest ih =>
    by_cases h : x.2.1 < k ∨ k < x.2.1
    · simp only [findL, h, if_true] at hf
      simp only [delL, h, if_true, ih hf]
    · simp [findL, h] at hf

theorem perm_delL {i : Nat} (hf : findL k l = some (i, v)) : l.Perm ((i, k, v) :: delL k l) := by
  induction l with
  | nil => simp [findL] at hf
  | cons x rest ih =>
    by_cases h : x.2.1 < k ∨ k < x.2.1
    · simp only [findL, h, if_true] at hf
      simp only [delL, h, if_true]
      exact (List.Perm.cons x (ih hf)).trans (List.Perm.swap _ _ _)
    · simp only [findL, h, if_false, Option.some.injEq, Prod.mk.injEq] at hf
      simp only [delL, h, if_false]
      obtain ⟨xi, xk, xv⟩ := x
      obtain rfl : xk = k := LinOrd.eq_of_not_lt_or h
      obtain ⟨rfl, rfl⟩ := hf
      exact List.Perm.refl _

theorem length_delL {p : Nat × β} (hf : findL k l = some p) : (delL k l).length + 1 = l.length :=
  (perm_delL (i := p.1) (v := p.2) hf).length_eq.symm

theorem findL_delL_self {l : List (Entry α β)} (hs : SortedE l) (k : α) : findL k (delL k l) = none := by
  induction l with
  | nil => rfl
  | cons x rest ih =>
    by_cases h : x.2.1 < k ∨ k < x.2.1
    · simp only [delL, h, if_true, findL]
      exact ih hs.2
    · simp only [delL, h, if_false]
      exact findL_none_of_gt (fun y hy => LinOrd.eq_of_not_lt_or h ▸ hs.1 y hy)

theorem findL_delL_other (hk : k' < k ∨ k < k') : findL k' (delL k l) = findL k' l := by
  induction l with
  | nil => rfl
  | cons x rest ih =>
    by_cases h : x.2.1 < k ∨ k < x.2.1
    · simp only [delL, h, if_true, findL, ih]
    · have : x.2.1 < k' ∨ k' < x.2.1 := by rw [LinOrd.eq_of_not_lt_or h]; exact hk.symm
      simp only [delL, h, if_false, findL, this, if_true]

theorem delL_append_of_lt (h : ∀ x ∈ l, x.2.1 < k) : delL k (l ++ r) = l ++ delL k r := by
  induction l with
  | nil => rfl
  | cons x rest ih =>
    rw [List.forall_mem_cons] at h
    simp only [List.cons_append, delL, h.1, true_or, if_true, ih h.2]

theorem delL_append_of_gt (h : ∀ y ∈ r, k < y.2.1) : delL k (l ++ r) = delL k l ++ r := by
  induction l with
  | nil => exact delL_of_none (findL_none_of_gt h)
  | cons x rest ih =>
    simp only [List.cons_append, delL]
    split
    · rw [ih]; rfl
    · rfl

theorem map_setL_of {γ : Type} (f : Entry α β → γ) (hf : ∀ x : Entry α β, f (x.1, x.2.1, v) = f x) :
    (setL k v l).map f = l.map f := by
  induction l with
  | nil => rfl
  | cons x rest ih =>
    rw [setL]
    split
    · rw [List.map_cons, List.map_cons, ih]
    · rw [List.map_cons, List.map_cons, hf]

theorem length_setL (k : α) (v : β) (l : List (Entry α β)) : (setL k v l).length = l.length := by
  induction l with
  | nil => rfl
  | cons x rest ih => simp only [setL]; split <;> simp [ih]

theorem sorted_setL (hs : SortedE l) (k : α) (v : β) : SortedE (setL k v l) := by
  rw [sortedE_iff_pairwise] at hs ⊢
  rw [← List.pairwise_map (f := fun x : Entry α β => x.2.1) (R := (· < ·))] at hs ⊢
  rwa [map_setL_of _ (fun _ => rfl)]

theorem setL_of_none (hf : findL k l = none) : setL k v l = l := by
  induction l with
  | nil => rfl
  | cons x rest ih =>
    by_cases h : x.2.1 < k ∨ k < x.2.1
    · simp only [findL, h, if_true] at hf
      simp only [setL, h, if_true, ih hf]
    · simp [findL, h] at hf

theorem setL_append_of_lt (h : ∀ x ∈ l, x.2.1 < k) : setL k v (l ++ r) = l ++ setL k v r := by
  induction l with
  | nil => rfl
  | cons x rest ih =>
    rw [List.forall_mem_cons] at h
    simp only [List.cons_append, setL, h.1, true_or, if_true, ih h.2]

theorem setL_append_of_gt (h : ∀ y ∈ r, k < y.2.1) : setL k v (l ++ r) = setL k v l ++ r := by
  induction l with
  | nil => exact setL_of_none (findL_none_of_gt h)
  | cons x rest ih =>
    simp only [List.cons_append, setL]
    split
    · rw [ih]; rfl
    · rfl

end ListLemmas

theorem minNodes_mono (n : Nat) : minNodes n ≤ minNodes (n + 1) := by
  match n with
  | 0 => simp [minNodes]
  | n + 1 => simp only [minNodes]; omega

theorem minNodes_le_of_le {a b : Nat} (h : a ≤ b) : minNodes a ≤ minNodes b := by
  induction h with
  | refl => exact Nat.le_refl _
  | step _ ih => exact Nat.le_trans ih (minNodes_mono _)

theorem minNodes_step (a b : Nat) (h1 : a ≤ b + 1) (h2 : b ≤ a + 1) :
    minNodes (max a b + 1) ≤ minNodes a + 1 + minNodes b := by
  rcases Nat.lt_trichotomy a b with hlt | heq | hgt
  · obtain rfl : b = a + 1 := by omega
    rw [Nat.max_eq_right (by omega)]
    simp only [minNodes]; omega
  · subst heq
    rw [Nat.max_self]
    match a with
    | 0 => simp [minNodes]
    | m + 1 =>
      have := minNodes_mono m
      simp only [minNodes]; omega
  · obtain rfl : a = b + 1 := by omega
    rw [Nat.max_eq_left (by omega)]
    simp only [minNodes]; omega

/-- Two more levels at least double `minNodes + 1` (`minNodes (h + 2) + 1 ≥ 2 * (minNodes h + 1)`). -/
theorem minNodes_ge_pow (h : Nat) : 2 ^ (h / 2) ≤ minNodes h + 1 := by
  induction h using Nat.strongRecOn with
  | _ h ih =>
    match h with
    | 0 => simp [minNodes]
    | 1 => simp [minNodes]
    | h + 2 =>
      have e : (h + 2) / 2 = h / 2 + 1 := by omega
      have := ih h (by omega)
      have := minNodes_mono h
      rw [e, Nat.pow_succ]
      simp only [minNodes]
      omega

namespace T
variable {α β : Type}

theorem size_eq_length (t : T α β) : size t = (toList t).length := by
  induction t with
  | nil => rfl
  | node i l k v h r ihl ihr => simp [size, toList, ihl, ihr]; omega

@[simp] theorem ht_nil : ht (nil : T α β) = 0 := rfl

@[simp] theorem ht_node (i : Nat) (l : T α β) (k : α) (v : β) (h : Nat) (r : T α β) :
    ht (node i l k v h r) = h + 1 := rfl

@[simp] theorem ht_mk (i : Nat) (l : T α β) (k : α) (v : β) (r : T α β) :
    ht (mk i l k v r) = max (ht l) (ht r) + 1 := rfl

@[simp] theorem slot_nil : (T.nil : T α β).slot = 0 := rfl

@[simp] theorem slot_node (i : Nat) (l : T α β) (k : α) (v : β) (h : Nat) (r : T α β) :
    (T.node i l k v h r).slot = i := rfl

@[simp] theorem slot_mk (i : Nat) (l : T α β) (k : α) (v : β) (r : T α β) :
    (T.mk i l k v r).slot = i := rfl

@[simp] theorem left_node (i : Nat) (l : T α β) (k : α) (v : β) (h : Nat) (r : T α β) :
    (T.node i l k v h r).left = l := rfl

@[simp] theorem right_node (i : Nat) (l : T α β) (k : α) (v : β) (h : Nat) (r : T α β) :
    (T.node i l k v h r).right = r := rfl

theorem toList_rotL (t : T α β) : toList (rotL t) = toList t := by
  unfold rotL; split <;> simp [toList, mk]

theorem toList_rotR (t : T α β) : toList (rotR t) = toList t := by
  unfold rotR; split <;> simp [toList, mk]

@[simp] theorem slots_nil : (nil : T α β).slots = [] := rfl

@[simp] theorem slots_node (i : Nat) (l : T α β) (k : α) (v : β) (h : Nat) (r : T α β) :
    (node i l k v h r).slots = l.slots ++ i :: r.slots := by
  simp [slots, toList]

theorem length_slots (t : T α β) : t.slots.length = t.size := by
  simp [slots, size_eq_length]

theorem slots_rotL (t : T α β) : (rotL t).slots = t.slots := by simp [slots, toList_rotL]

theorem slots_rotR (t : T α β) : (rotR t).slots = t.slots := by simp [slots, toList_rotR]

section
variable (i : Nat) (l : T α β) (k : α) (v : β) (r : T α β)

@[simp] theorem toList_mk : toList (mk i l k v r) = toList l ++ (i, k, v) :: toList r := rfl

theorem toList_rebal : toList (rebal i l k v r) = toList l ++ (i, k, v) :: toList r := by
  unfold rebal
  split
  · rw [toList_rotR, toList_mk]; split
    · rw [toList_rotL]
    · rfl
  · split
    · rw [toList_rotL, toList_mk]; split
      · rw [toList_rotR]
      · rfl
    · rfl

theorem slots_mk : (mk i l k v r).slots = l.slots ++ i :: r.slots := by simp [mk]

theorem slots_rebal : (rebal i l k v r).slots = l.slots ++ i :: r.slots := by
  simp [slots, toList_rebal]

end

section
variable {i : Nat} {l r : T α β} {k : α} {v : β}

theorem rebal_mid (h1 : ht l ≤ ht r + 1) (h2 : ht r ≤ ht l + 1) :
    rebal i l k v r = mk i l k v r := by
  unfold rebal
  rw [if_neg (by omega), if_neg (by omega)]

theorem rebal_left (hl : Bal l) (hr : Bal r) (h : ht l = ht r + 2) :
    Bal (rebal i l k v r) ∧ ht l ≤ ht (rebal i l k v r) ∧ ht (rebal i l k v r) ≤ ht l + 1 := by
  unfold rebal
  rw [if_pos (by omega)]
  cases l with
  | nil => simp at h
  | node j a jk jv jh lr =>
    -- in both cases `grind` combines: `h`, `hc`, and what `Bal` of `l` (and of `lr`) unfolds to, namely the
    -- children's heights within one of each other and each register the `max` of them
    by_cases hc : ht a < ht lr
    · simp only [left, right, hc, if_true]
      cases lr with
      | nil => simp at hc
      | node n b nk nv nh c =>
        show Bal (mk n (mk j a jk jv b) nk nv (mk i c k v r)) ∧ _
        simp only [rotL, rotR, mk, Bal, ht_node] at *
        grind
    · simp only [left, right, hc, if_false]
      show Bal (mk j a jk jv (mk i lr k v r)) ∧ _
      simp only [rotR, mk, Bal, ht_node] at *
      grind

theorem rebal_right (hl : Bal l) (hr : Bal r) (h : ht r = ht l + 2) :
    Bal (rebal i l k v r) ∧ ht r ≤ ht (rebal i l k v r) ∧ ht (rebal i l k v r) ≤ ht r + 1 := by
  unfold rebal
  rw [if_neg (by omega), if_pos (by omega)]
  cases r with
  | nil => simp at h
  | node j rl jk jv jh c =>
    by_cases hc : ht c < ht rl
    · simp only [left, right, hc, if_true]
      cases rl with
      | nil => simp at hc
      | node n a nk nv nh b =>
        show Bal (mk n (mk i l k v a) nk nv (mk j b jk jv c)) ∧ _
        simp only [rotL, rotR, mk, Bal, ht_node] at *
        grind
    · simp only [left, right, hc, if_false]
      show Bal (mk j (mk i l k v rl) jk jv c) ∧ _
      simp only [rotL, mk, Bal, ht_node] at *
      grind

end

/-- `h0` says one child is as high as before; the other moved by some `δ ∈ {-1, 0, 1}`, which `h1 h2` and the
    conclusion (`new = old ∨ new = old + δ`) express through the sum of the two children's heights: that way
    neither the side nor `max` appears, and `ins`, `del`, `popMin` close their two symmetric branches by `omega`. -/
theorem rebal_step {i h : Nat} {l r l' r' : T α β} {k : α} {v : β} (hb : Bal (node i l k v h r))
    (hl : Bal l') (hr : Bal r') (h0 : ht l' = ht l ∨ ht r' = ht r)
    (h1 : ht l' + ht r' ≤ ht l + ht r + 1) (h2 : ht l + ht r ≤ ht l' + ht r' + 1) :
    Bal (rebal i l' k v r') ∧ (ht (rebal i l' k v r') = h + 1 ∨
      ht (rebal i l' k v r') + (ht l + ht r) = h + 1 + (ht l' + ht r')) := by
  obtain ⟨_, _, g1, g2, rfl⟩ := hb
  by_cases h3 : ht l' = ht r' + 2
  · obtain ⟨b, e⟩ := rebal_left (i := i) (k := k) (v := v) hl hr h3
    exact ⟨b, by grind⟩
  · by_cases h4 : ht r' = ht l' + 2
    · obtain ⟨b, e⟩ := rebal_right (i := i) (k := k) (v := v) hl hr h4
      exact ⟨b, by grind⟩
    · rw [rebal_mid (by omega) (by omega), ht_mk]
      exact ⟨⟨hl, hr, by omega, by omega, rfl⟩, by grind⟩

theorem ht_eq_height {t : T α β} (hb : Bal t) : ht t = height t := by
  induction t with
  | nil => rfl
  | node i l k v h r ihl ihr =>
    obtain ⟨hl, hr, _, _, hh⟩ := hb
    simp only [ht_node, height, hh, ihl hl, ihr hr]

theorem minNodes_le_size {t : T α β} (hb : Bal t) : minNodes (ht t) ≤ size t := by
  induction t with
  | nil => simp [minNodes]
  | node i l k v h r ihl ihr =>
    obtain ⟨hl, hr, h1, h2, hh⟩ := hb
    have il := ihl hl
    have ir := ihr hr
    have := minNodes_step _ _ h1 h2
    simp only [ht_node, size, hh]
    omega

theorem minNodes_height_le_size {t : T α β} (hb : Bal t) : minNodes (height t) ≤ size t :=
  ht_eq_height hb ▸ minNodes_le_size hb

theorem pow_height_le_size {t : T α β} (hb : Bal t) : 2 ^ (height t / 2) ≤ size t + 1 :=
  Nat.le_trans (minNodes_ge_pow (height t)) (Nat.succ_le_succ (minNodes_height_le_size hb))

theorem minKey_eq (t : T α β) : minKey t = (toList t).head?.map (·.2.1) := by
  induction t with
  | nil => rfl
  | node i l k v h r ihl ihr =>
    cases l with
    | nil => simp [minKey, toList]
    | node j ll lk lv lh lr =>
      simp only [minKey]
      rw [ihl]
      simp [toList, List.head?_append]

theorem all_iff (p : α → Prop) (t : T α β) : All p t ↔ ∀ e ∈ toList t, p e.2.1 := by
  induction t with
  | nil => simp [All, toList]
  | node i l k v h r ihl ihr =>
    simp only [All, toList, ihl, ihr, List.forall_mem_append, List.forall_mem_cons]

variable [LinOrd α]

theorem bst_iff_sorted (t : T α β) : Bst t ↔ SortedE (toList t) := by
  induction t with
  | nil => simp [Bst, toList, SortedE]
  | node i l k v h r ihl ihr =>
    simp only [Bst, toList, sortedE_append, SortedE, all_iff, ihl, ihr, List.forall_mem_cons]
    constructor
    · rintro ⟨hl, hr, hlk, hrk⟩
      exact ⟨hl, ⟨hrk, hr⟩, fun x hx => ⟨hlk x hx, fun y hy => LinOrd.trans (hlk x hx) (hrk y hy)⟩⟩
    · rintro ⟨hl, ⟨hrk, hr⟩, hh⟩
      exact ⟨hl, hr, fun e he => (hh e he).1, hrk⟩

theorem bst_node_cases {i : Nat} {l : T α β} {k' : α} {v' : β} {h : Nat} {r : T α β}
    (hb : Bst (node i l k' v' h r)) (k : α) :
    (k < k' ∧ ∀ y ∈ (i, k', v') :: toList r, k < y.2.1) ∨
    (¬ k < k' ∧ k' < k ∧ ∀ x ∈ toList l, x.2.1 < k) ∨
    (¬ k < k' ∧ ¬ k' < k ∧ k' = k ∧ ∀ x ∈ toList l, x.2.1 < k) := by
  have hlk := (all_iff _ _).1 hb.2.2.1
  have hrk := (all_iff _ _).1 hb.2.2.2
  by_cases h1 : k < k'
  · refine .inl ⟨h1, fun y hy => ?_⟩
    rcases List.mem_cons.1 hy with rfl | hy
    · exact h1
    · exact LinOrd.trans h1 (hrk y hy)
  · by_cases h2 : k' < k
    · exact .inr (.inl ⟨h1, h2, fun x hx => LinOrd.trans (hlk x hx) h2⟩)
    · obtain rfl := LinOrd.eq_of_not_lt h2 h1
      exact .inr (.inr ⟨h1, h2, rfl, hlk⟩)

theorem find_eq_findL {t : T α β} (hb : Bst t) (k : α) : find k t = findL k (toList t) := by
  induction t with
  | nil => rfl
  | node i l k' v' h r ihl ihr =>
    simp only [find, toList]
    rcases bst_node_cases hb k with ⟨h1, hgt⟩ | ⟨h1, h2, hlt⟩ | ⟨h1, h2, rfl, hlk⟩
    · rw [if_pos h1, ihl hb.1, findL_append_of_gt hgt]
    · rw [if_neg h1, if_pos h2, ihr hb.2.1, findL_append_of_lt hlt]
      simp only [findL, h2, true_or, if_true]
    · rw [if_neg h1, if_neg h2, findL_append_of_lt hlk]
      simp only [findL, h1, or_self, if_false]

theorem toList_ins {t : T α β} (hb : Bst t) (idx : Nat) (k : α) (v : β) (hf : find k t = none) :
    toList (ins idx k v t) = insL (idx, k, v) (toList t) := by
  induction t with
  | nil => rfl
  | node i l k' v' h r ihl ihr =>
    simp only [find] at hf
    simp only [ins, toList]
    rcases bst_node_cases hb k with ⟨h1, _⟩ | ⟨h1, h2, hlt⟩ | ⟨h1, h2, _⟩
    · rw [if_pos h1] at hf
      rw [if_pos h1, toList_rebal, ihl hb.1 hf, insL_append_cons_of_gt h1]
    · rw [if_neg h1, if_pos h2] at hf
      rw [if_neg h1, if_pos h2, toList_rebal, ihr hb.2.1 hf, insL_append_of_lt (e := (idx, k, v)) hlt]
      simp only [insL, h1, if_false]
    · rw [if_neg h1, if_neg h2] at hf
      cases hf

theorem slots_ins_perm {t : T α β} (hb : Bst t) (i : Nat) (k : α) (v : β)
    (hf : find k t = none) : (ins i k v t).slots.Perm (i :: t.slots) := by
  unfold slots
  rw [toList_ins hb i k v hf]
  exact (perm_insL (i, k, v) (toList t)).map _

theorem ins_bal {t : T α β} (hb : Bal t) (idx : Nat) (k : α) (v : β) :
    Bal (ins idx k v t) ∧ (ht (ins idx k v t) = ht t ∨ ht (ins idx k v t) = ht t + 1) := by
  induction t with
  | nil => simp [ins, Bal]
  | node i l k' v' h r ihl ihr =>
    simp only [ins, ht_node]
    split
    · obtain ⟨b, e⟩ := ihl hb.1
      obtain ⟨b', e'⟩ := rebal_step hb b hb.2.1 (.inr rfl) (by omega) (by omega)
      exact ⟨b', by omega⟩
    · split
      · obtain ⟨b, e⟩ := ihr hb.2.1
        obtain ⟨b', e'⟩ := rebal_step hb hb.1 b (.inl rfl) (by omega) (by omega)
        exact ⟨b', by omega⟩
      · exact ⟨hb, Or.inl rfl⟩

omit [LinOrd α] in
theorem toList_popMin (i : Nat) (l : T α β) (k : α) (v : β) (r : T α β) :
    (popMin i l k v r).1 :: toList (popMin i l k v r).2 = toList l ++ (i, k, v) :: toList r := by
  induction l generalizing i k v r with
  | nil => rfl
  | node li ll lk lv lh lr ihl _ =>
    simp only [popMin, toList_rebal, toList]
    rw [← ihl li lk lv lr]
    rfl

omit [LinOrd α] in
theorem popMin_bal {i h : Nat} {l : T α β} {k : α} {v : β} {r : T α β} (hb : Bal (node i l k v h r)) :
    Bal (popMin i l k v r).2 ∧ (ht (popMin i l k v r).2 = h + 1 ∨ ht (popMin i l k v r).2 = h) := by
  induction l generalizing i h k v r with
  | nil =>
    obtain ⟨_, hr, _, g, rfl⟩ := hb
    refine ⟨hr, Or.inr ?_⟩
    show ht r = max 0 (ht r)
    omega
  | node li ll lk lv lh lr ihl _ =>
    obtain ⟨b, e⟩ := ihl hb.1
    obtain ⟨b', e'⟩ := rebal_step hb b hb.2.1 (.inr rfl) (by rw [ht_node]; omega) (by rw [ht_node]; omega)
    exact ⟨b', by rw [ht_node] at e'; simp only [popMin]; omega⟩

theorem toList_del {t : T α β} (hb : Bst t) (k : α) :
    toList (del k t) = delL k (toList t) := by
  induction t with
  | nil => rfl
  | node i l k' v' h r ihl ihr =>
    simp only [del, toList]
    rcases bst_node_cases hb k with ⟨h1, hgt⟩ | ⟨h1, h2, hlt⟩ | ⟨h1, h2, rfl, hlk⟩
    · rw [if_pos h1, toList_rebal, ihl hb.1, delL_append_of_gt hgt]
    · rw [if_neg h1, if_pos h2, toList_rebal, ihr hb.2.1, delL_append_of_lt hlt]
      simp only [delL, h2, true_or, if_true]
    · rw [if_neg h1, delL_append_of_lt hlk]
      simp only [delL, h1, or_self, if_false]
      cases l with
      | nil => cases r <;> rfl
      | node li ll lk lv lh lr =>
        cases r with
        | nil => simp [toList]
        | node ri rl rk rv rh rr =>
          simp only [toList_rebal]
          rw [show ((popMin ri rl rk rv rr).1.1, (popMin ri rl rk rv rr).1.2.1,
            (popMin ri rl rk rv rr).1.2.2) = (popMin ri rl rk rv rr).1 from rfl, toList_popMin]
          rfl

theorem del_bal {t : T α β} (hb : Bal t) (k : α) :
    Bal (del k t) ∧ (ht (del k t) = ht t ∨ ht (del k t) + 1 = ht t) := by
  induction t with
  | nil => exact ⟨hb, Or.inl rfl⟩
  | node i l k' v' h r ihl ihr =>
    simp only [del, ht_node]
    split
    · obtain ⟨b, e⟩ := ihl hb.1
      obtain ⟨b', e'⟩ := rebal_step hb b hb.2.1 (.inr rfl) (by omega) (by omega)
      exact ⟨b', by omega⟩
    · split
      · obtain ⟨b, e⟩ := ihr hb.2.1
        obtain ⟨b', e'⟩ := rebal_step hb hb.1 b (.inl rfl) (by omega) (by omega)
        exact ⟨b', by omega⟩
      · split
        · obtain ⟨_, _, _, _, rfl⟩ := hb
          exact ⟨trivial, Or.inr rfl⟩
        · obtain ⟨hl, _, h1, _, rfl⟩ := hb
          exact ⟨hl, Or.inr (by rw [ht_nil] at h1 ⊢; omega)⟩
        · obtain ⟨_, hr, _, h2, rfl⟩ := hb
          exact ⟨hr, Or.inr (by rw [ht_nil] at h2 ⊢; omega)⟩
        · rename_i li ll lk lv lh lr ri rl rk rv rh rr
          obtain ⟨b, e⟩ := popMin_bal hb.2.1
          obtain ⟨b', e'⟩ := rebal_step (i := (popMin ri rl rk rv rr).1.1) (k := (popMin ri rl rk rv rr).1.2.1)
            (v := (popMin ri rl rk rv rr).1.2.2) hb hb.1 b (.inl rfl)
            (by rw [ht_node ri]; omega) (by rw [ht_node ri]; omega)
          exact ⟨b', by rw [ht_node ri] at e'; omega⟩

theorem toList_setVal {t : T α β} (hb : Bst t) (k : α) (v : β) :
    toList (setVal k v t) = setL k v (toList t) := by
  induction t with
  | nil => rfl
  | node i l k' v' h r ihl ihr =>
    simp only [setVal]
    rcases bst_node_cases hb k with ⟨h1, hgt⟩ | ⟨h1, h2, hlt⟩ | ⟨h1, h2, rfl, hlk⟩
    · rw [if_pos h1, toList, ihl hb.1, toList, setL_append_of_gt hgt]
    · rw [if_neg h1, if_pos h2, toList, ihr hb.2.1, toList, setL_append_of_lt hlt]
      simp only [setL, h2, true_or, if_true]
    · rw [if_neg h1, if_neg h2, toList, toList, setL_append_of_lt hlk]
      simp only [setL, h1, or_self, if_false]

theorem slots_setVal (k : α) (v : β) (t : T α β) : (setVal k v t).slots = t.slots := by
  induction t with
  | nil => rfl
  | node i l k' v' h r ihl ihr =>
    simp only [setVal]
    split
    · simp [ihl]
    · split
      · simp [ihr]
      · simp

theorem slot_setVal (k : α) (v : β) (t : T α β) : (setVal k v t).slot = t.slot := by
  cases t with
  | nil => rfl
  | node i l k' v' h r =>
    simp only [setVal]
    split
    · rfl
    · split <;> rfl

theorem find_mem_slots {k : α} {t : T α β} {i : Nat} {v : β} (h : t.find k = some (i, v)) :
    i ∈ t.slots := by
  induction t with
  | nil => simp [find] at h
  | node j l k' v' hh r ihl ihr =>
    simp only [find] at h
    split at h
    · simp [ihl h]
    · split at h
      · simp [ihr h]
      · cases h; simp

theorem setVal_bal {t : T α β} (hb : Bal t) (k : α) (v : β) :
    Bal (setVal k v t) ∧ ht (setVal k v t) = ht t := by
  induction t with
  | nil => exact ⟨hb, rfl⟩
  | node i l k' v' h r ihl ihr =>
    obtain ⟨hl, hr, h1, h2, hh⟩ := hb
    simp only [setVal]
    split
    · obtain ⟨b, e⟩ := ihl hl
      exact ⟨⟨b, hr, by omega, by omega, by rw [e]; exact hh⟩, rfl⟩
    · split
      · obtain ⟨b, e⟩ := ihr hr
        exact ⟨⟨hl, b, by omega, by omega, by rw [e]; exact hh⟩, rfl⟩
      · exact ⟨⟨hl, hr, h1, h2, hh⟩, rfl⟩

theorem path_length_le (t : T α β) (k : α) : (path k t).length ≤ height t := by
  induction t with
  | nil => simp [path, height]
  | node i l k' v' h r ihl ihr =>
    simp only [path, height, List.length_cons]
    have := Nat.le_max_left (height l) (height r)
    have := Nat.le_max_right (height l) (height r)
    split
    · omega
    · split
      · omega
      · simp

end T

end Stevia
