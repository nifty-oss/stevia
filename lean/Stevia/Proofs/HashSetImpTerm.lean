/-
  Stevia.Proofs.HashSetImpTerm — the chain scan of `contains` / `insert` / `remove` terminates: on the register layout of
  every well-formed set it leaves by its own condition (or finds the value) within `records + 1` iterations
  (`HImp.scanT`).  The other loop of `hash_set.rs`, the iterator's bucket skip, is followed in GenHSetIter.
-/
import Stevia.Model.HashSetImpTerm
import Stevia.Proofs.HashSetImpEq

namespace Stevia
variable {β : Type} [DecidableEq β]

theorem HImp.scanT_walk (d : HRec β) (m : HImage β) (v : β) {l : List (Nat × β)} :
    ∀ {fuel cur}, m.walkChain fuel cur = some l → HImp.scanT d m v (fuel + 1) cur = true := by
  induction l with
  | nil =>
    intro fuel cur h
    rw [HImage.walkChain_nil h]
    simp [HImp.scanT]
  | cons e l ih =>
    intro fuel cur h
    obtain ⟨f, j, rc, rfl, rfl, hrc, rfl, hw⟩ := HImage.walkChain_cons h
    rw [HImp.scanT, if_neg (Nat.succ_ne_zero j), HImp.rd_of_getElem? d hrc, ih hw]
    split <;> rfl

/-- For `insert`, which scans unless `size = cap`: an empty set included. -/
theorem HImp.scanT_image_cap (hash : β → Nat) (vd : β) (s : HSet β) (h : s.Inv hash) (v : β) (hc : s.cap ≠ 0) :
    HImp.scanT (HImp.dflt vd) (s.image vd) v (s.slots + 1)
      (HImp.rdB (HImp.dflt vd) (s.image vd) (HImp.bucketIndex hash (s.image vd) v)).bucket = true := by
  obtain ⟨ch, hch, -⟩ := h.chain_of hc v
  exact HImp.scanT_walk _ _ _ (HImp.walk_rdB vd h.layoutOk hch (Nat.le_refl _))

/-- For `contains` and `remove`, which scan unless `size = 0`. -/
theorem HImp.scanT_image (hash : β → Nat) (vd : β) (s : HSet β) (h : s.Inv hash) (v : β) :
    s.size = 0 ∨ HImp.scanT (HImp.dflt vd) (s.image vd) v (s.slots + 1)
      (HImp.rdB (HImp.dflt vd) (s.image vd) (HImp.bucketIndex hash (s.image vd) v)).bucket = true := by
  by_cases h0 : s.size = 0
  · exact .inl h0
  · exact .inr (HImp.scanT_image_cap hash vd s h v (h.cap_ne_zero h0))

end Stevia
