/-
  Stevia.Proofs.GenPod — translator output for `pod_bool.rs`, `pod_option.rs` and `ZeroCopy::load/load_mut`
  (`Stevia.GenPod.*`) = the model `Stevia.Pod.*`.
-/
import Stevia.Generated.Pod

namespace Stevia
namespace GenPod
-- The simp sets name more than the present source needs: they also absorb a conversion that delegates to its
-- by-reference twin and a some-pattern test written negated with the branches swapped.
set_option linter.unusedSimpArgs false

theorem pod_to_bool_eq (b : UInt8) : pod_to_bool b = Pod.boolDecode b ∧ pod_ref_to_bool b = Pod.boolDecode b := by
  simp [pod_to_bool, pod_ref_to_bool, Pod.boolDecode, bne_iff_ne]
  by_cases h : b = 0 <;> simp [h]

theorem bool_to_pod_eq (x : Bool) : bool_to_pod x = Pod.boolEncode x ∧ bool_ref_to_pod x = Pod.boolEncode x := by
  cases x <;> exact ⟨rfl, rfl⟩

theorem option_value_eq (isSome isNone : ByteArray → Bool) (inner : ByteArray) :
    option_value isSome isNone inner = Pod.optValue isSome inner ∧
    option_value_mut isSome isNone inner = Pod.optValue isSome inner := by
  unfold option_value option_value_mut Pod.optValue
  cases h : isSome inner <;> simp [h]

theorem option_new_eq (value : ByteArray) : option_new value = value := rfl

theorem load_eq (n : Nat) (data : ByteArray) :
    load n data = (Pod.load n data).toOption ∧ load_mut n data = (Pod.load n data).toOption := by
  unfold load load_mut Pod.load
  by_cases h : n ≤ data.size
  · simp [h, Nat.not_lt.2 h, Except.toOption]
  · simp [h, Nat.lt_of_not_le h, Except.toOption]

end GenPod
end Stevia
