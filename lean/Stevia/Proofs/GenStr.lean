/-
  Stevia.Proofs.GenStr — translator output for `prefix_str.rs` (`Stevia.GenP.*`) and `pod_str.rs` (`Stevia.GenS.*`)
  related to the models `Stevia.PStr.*` / `Stevia.PodStr.*`.
  `W` = size of the length prefix, `P` = its largest value, `N` = capacity of the pod string.  A failing slice
  index / `split_at` / length mismatch is `none` on the translated side and `Except.error` in the model.
-/
import Stevia.Generated.PStr
import Stevia.Generated.PodStr
import Stevia.Proofs.GenLemmas
import Stevia.Proofs.StrState

namespace Stevia

theorem zerosBA_extract (N l : Nat) : (zerosBA N).extract l N = zerosBA (N - l) := by
  apply ByteArray.ext
  simp [zerosBA, ByteArray.data_extract]

namespace GenP

theorem from_bytes_unchecked_eq (W P N : Nat) (bytes : ByteArray) :
    from_bytes_unchecked W P N bytes =
      if bytes.size < W then none else if bytes.size - W < PStr.recLen W bytes then none
      else some (PStr.payload W bytes) := by
  unfold from_bytes_unchecked PStr.payload PStr.recLen
  by_cases h1 : bytes.size < W
  · have : ¬ W ≤ bytes.size := by omega
    simp [h1, this]
  · have h1' : W ≤ bytes.size := by omega
    by_cases h2 : bytes.size - W < leOfBA (bytes.extract 0 W)
    · simp [h1, h1', h2, ByteArray.size_extract]
    · have h3 : W + leOfBA (bytes.extract 0 W) ≤ bytes.size := by omega
      simp [h1, h1', h2, ByteArray.size_extract, extract_tail_prefix _ _ _ h3]

theorem from_bytes_eq (W P N : Nat) (bytes : ByteArray) :
    from_bytes W P N bytes = (PStr.fromBytes W bytes).toOption := by
  unfold from_bytes PStr.fromBytes
  rw [from_bytes_unchecked_eq]
  by_cases h1 : bytes.size < W
  · simp [h1, Except.toOption]
  · by_cases h2 : bytes.size - W < PStr.recLen W bytes
    · simp [h1, h2, Except.toOption]
    · simp [h1, h2, Except.toOption]; split <;> rfl

-- The script of `from_bytes_unchecked_eq` once more: two generated functions, each decided by cases on its own.
theorem from_bytes_mut_eq (W P N : Nat) (bytes : ByteArray) :
    from_bytes_mut W P N bytes =
      if bytes.size < W then none else if bytes.size - W < PStr.recLen W bytes then none
      else some (bytes, PStr.payload W bytes) := by
  unfold from_bytes_mut PStr.payload PStr.recLen
  by_cases h1 : bytes.size < W
  · have : ¬ W ≤ bytes.size := by omega
    simp [h1, this]
  · have h1' : W ≤ bytes.size := by omega
    by_cases h2 : bytes.size - W < leOfBA (bytes.extract 0 W)
    · simp [h1, h1', h2, ByteArray.size_extract]
    · have h3 : W + leOfBA (bytes.extract 0 W) ≤ bytes.size := by omega
      simp [h1, h1', h2, ByteArray.size_extract, extract_tail_prefix _ _ _ h3]

theorem new_unchecked_eq (W P N : Nat) (hP : P < 256 ^ W) (data : ByteArray) :
    new_unchecked W P N data =
      if data.size < W then none else some (PStr.newBuf W P data, PStr.payload W (PStr.newBuf W P data)) := by
  unfold new_unchecked
  by_cases h1 : data.size < W
  · have : ¬ W ≤ data.size := by omega
    simp [h1, this]
  · have h1' : W ≤ data.size := by omega
    have hm : min (data.size - W) P % (P + 1) = min (data.size - W) P :=
      Nat.mod_eq_of_lt (by have := Nat.min_le_right (data.size - W) P; omega)
    have h2 : ¬ (PStr.newBuf W P data).size < W := by rw [PStr.newBuf_size _ _ _ h1']; exact h1
    have h3 : ¬ (PStr.newBuf W P data).size - W < PStr.recLen W (PStr.newBuf W P data) := by
      rw [PStr.newBuf_size _ _ _ h1', PStr.newBuf_recLen _ _ hP]; omega
    simp only [hm, leBA_size, h1', h1, not_true_eq_false, if_false]
    show (from_bytes_mut W P N (PStr.newBuf W P data) >>= _) = _
    rw [from_bytes_mut_eq, if_neg h2, if_neg h3]
    rfl

/-- For a prefix type whose maximum `P` fits in `W` bytes: `(1, 255)` and `(2, 65535)`. -/
theorem new_eq (W P N : Nat) (hP : P < 256 ^ W) (data : ByteArray) :
    (new W P N data).map (fun r => (r.1, r.2.isSome)) = (PStr.new W P data).toOption := by
  unfold new PStr.new
  simp only []
  rw [new_unchecked_eq _ _ _ hP]
  by_cases h1 : data.size < W
  · simp [h1, Except.toOption]
  · have hr := PStr.newBuf_recLen W P hP data
    simp only [h1, if_false, Except.toOption]
    show _ = some (PStr.newBuf W P data, ((PStr.newBuf W P data).extract W (W + min (data.size - W) P)).validateUTF8)
    rw [← hr]
    show _ = some (PStr.newBuf W P data, (PStr.payload W (PStr.newBuf W P data)).validateUTF8)
    by_cases h : (PStr.payload W (PStr.newBuf W P data)).IsValidUTF8 <;> simp [h]

theorem new_value (W P N : Nat) (hP : P < 256 ^ W) (data d' v : ByteArray)
    (h : new W P N data = some (d', some v)) : v = PStr.payload W d' := by
  unfold new at h
  simp only [] at h
  rw [new_unchecked_eq _ _ _ hP] at h
  by_cases h1 : data.size < W
  · simp [h1] at h
  · simp only [h1, if_false] at h
    by_cases hv : (PStr.payload W (PStr.newBuf W P data)).IsValidUTF8
    · simp [hv] at h
      obtain ⟨rfl, rfl⟩ := h
      rfl
    · simp [hv] at h

theorem copy_from_slice_eq (W P N : Nat) (value slice : ByteArray) (h : slice.size ≤ value.size) :
    copy_from_slice W P N value slice = some (slice ++ zerosBA (value.size - slice.size)) := by
  unfold copy_from_slice
  have hm : min value.size slice.size = slice.size := Nat.min_eq_right h
  have h3 : slice.size + (value.size - slice.size) = value.size := by omega
  simp [hm, h, ByteArray.size_extract, ByteArray.size_append, h3, ByteArray.extract_zero_size,
    ByteArray.extract_append_eq_left]

theorem copy_from_str_eq (W P N : Nat) (value : ByteArray) (s : String) :
    copy_from_str W P N value s =
      some (s.toByteArray.extract 0 (floorBoundary s (min value.size s.utf8ByteSize))
        ++ zerosBA (value.size - floorBoundary s (min value.size s.utf8ByteSize))) := by
  unfold copy_from_str
  simp only [forIn]
  -- the loop alone: from any `l` within the fuel it stops at the boundary below `l`, by its own test (position 0 is
  -- a boundary)
  refine (Option.bind_eq_of_eq_some ((?_ : ∀ n l, l ≤ n → Fuel.forIn _ (n + 1) (l, false) =
    some (floorBoundary s l, true)) _ _ (Nat.min_le_right _ _)) _).trans ?_
  · intro n
    induction n with
    | zero =>
      intro l hl
      obtain rfl : l = 0 := by omega
      simp [Fuel.forIn, floorBoundary]
    | succ n ih =>
      intro l hl
      cases l with
      | zero => simp [Fuel.forIn, floorBoundary]
      | succ k =>
        rw [Fuel.forIn, floorBoundary]
        cases (String.Pos.Raw.mk (k + 1)).isValid s
        · exact ih k (by omega)
        · rfl
  · have hn := floorBoundary_le s (min value.size s.utf8ByteSize)
    have hle : floorBoundary s (min value.size s.utf8ByteSize) ≤ s.toByteArray.size := by
      rw [String.size_toByteArray]; exact Nat.le_trans hn (Nat.min_le_right _ _)
    have hS : (s.toByteArray.extract 0 (floorBoundary s (min value.size s.utf8ByteSize))).size
        = floorBoundary s (min value.size s.utf8ByteSize) := size_extract_le hle
    simp only [Nat.zero_le, true_and, hle, not_true_eq_false, if_false]
    rw [copy_from_slice_eq _ _ _ _ _ (by rw [hS]; exact Nat.le_trans hn (Nat.min_le_left _ _)), hS]
    rfl

/-- `copy_from_str` through a handle over `buf` (whose `value` is the payload): the payload afterwards, put back
    between the prefix and the trailing bytes, is the model's buffer. -/
theorem copy_from_str_buf (W P N : Nat) (buf : ByteArray) (s : String) (hw : W + PStr.recLen W buf ≤ buf.size) :
    ∃ v, copy_from_str W P N (PStr.payload W buf) s = some v ∧
      PStr.copyFromStr W buf s = buf.extract 0 W ++ v ++ buf.extract (W + PStr.recLen W buf) buf.size := by
  refine ⟨_, copy_from_str_eq W P N _ s, ?_⟩
  rw [PStr.payload_size W buf hw]
  unfold PStr.copyFromStr
  simp only [ByteArray.append_assoc]

theorem size_eq (W P N : Nat) (buf : ByteArray) (hw : W + PStr.recLen W buf ≤ buf.size) :
    size W P N (PStr.payload W buf) = some (PStr.size W buf) := by
  unfold size PStr.size
  rw [PStr.payload_size W buf hw]; rfl

/-- `Deref`, `DerefMut` and `as_str` of a prefix string hand out the payload bytes themselves (and `DerefMut` leaves
    them as they are). -/
theorem deref_eq (W P N : Nat) (v : ByteArray) :
    deref W P N v = some v ∧ as_str W P N v = some v ∧ deref_mut W P N v = some (v, v) := ⟨rfl, rfl, rfl⟩

end GenP

namespace GenS

theorem copy_from_slice_eq (W P N : Nat) (v : ByteArray) (hv : v.size = N) (src : ByteArray) :
    copy_from_slice W P N v src = some (PodStr.ofBytes N src) := by
  unfold copy_from_slice PodStr.ofBytes
  have h1 : ¬ src.size < min src.size N := Nat.not_lt.2 (Nat.min_le_left _ _)
  have h2 : ¬ N < min src.size N := Nat.not_lt.2 (Nat.min_le_right _ _)
  have h3 : min src.size N + (N - min src.size N) = N := Nat.add_sub_cancel' (Nat.min_le_right _ _)
  have h4 : (src.extract 0 (min src.size N)).size = min src.size N := size_extract_le (Nat.min_le_left _ _)
  simp [ByteArray.size_extract, ByteArray.size_append, hv, h1, h2, h3,
    ByteArray.extract_append_eq_left h4.symm]

theorem copy_from_str_eq (W P N : Nat) (v : ByteArray) (hv : v.size = N) (s : String) :
    copy_from_str W P N v s = some (PodStr.ofStr N s) := by
  unfold copy_from_str
  simp only []
  rw [copy_from_slice_eq W P N v hv]; rfl

/-- `From<&str>`: written out (copy what fits into a zero array) or as `Self::default()` followed by `copy_from_str`. -/
theorem from_str_eq (W P N : Nat) (s : String) : from_str W P N s = some (PodStr.ofStr N s) := by
  first
  | (unfold from_str PodStr.ofStr PodStr.ofBytes
     have h1 : ¬ s.utf8ByteSize < min s.utf8ByteSize N := Nat.not_lt.2 (Nat.min_le_left _ _)
     have h2 : ¬ N < min s.utf8ByteSize N := Nat.not_lt.2 (Nat.min_le_right _ _)
     simp [zerosBA_size, ByteArray.size_extract, String.size_toByteArray, zerosBA_extract, h1, h2]
     done)
  | (unfold from_str
     simp only [default_value, bind, Option.bind, pure]
     rw [copy_from_str_eq W P N (zerosBA N) (zerosBA_size N) s])

theorem nul_search_le {N : Nat} {v : ByteArray} (hv : v.size = N) :
    (v.toList.findIdx? (· == 0)).getD N ≤ N := by
  have := (PodStr.text_spec v).1
  rwa [PodStr.endIndex, hv] at this

theorem as_str_eq (W P N : Nat) (v : ByteArray) (hv : v.size = N) :
    as_str W P N v = some (PodStr.asStr v) := by
  unfold as_str PodStr.asStr PodStr.text PodStr.endIndex
  rw [hv]
  have h := nul_search_le hv
  first
  | (simp [h]; done)
  | (simp [h]; intro hc; omega)  -- the NUL search behind a helper: its bounds check stays, and never fires

/-- `lossy` stands for the standard library's `String::from_utf8_lossy`, whose behaviour is a parameter. -/
theorem fmt_eq (W P N : Nat) (lossy : ByteArray → ByteArray) (v : ByteArray) (hv : v.size = N) :
    fmt W P N lossy v = some (lossy (PodStr.text v)) := by
  unfold fmt PodStr.text PodStr.endIndex
  rw [hv]
  have h := nul_search_le hv
  first
  | (simp [h]; done)
  | (simp [h]; intro hc; omega)

theorem as_str_unchecked_eq (W P N : Nat) (v : ByteArray) (hv : v.size = N) :
    as_str_unchecked W P N v = some (PodStr.text v) := by
  unfold as_str_unchecked PodStr.text PodStr.endIndex
  rw [hv]
  have h := nul_search_le hv
  first
  | (simp [h]; done)
  | (simp [h]; intro hc; omega)

theorem default_value_eq (W P N : Nat) : default_value W P N = some (zerosBA N) := rfl

end GenS

end Stevia
