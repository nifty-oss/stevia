/-
  Stevia.Proofs.ArraySearch — the binary-search loop of `index` (`ASet.search`): what one run of it guarantees
  whatever the slots hold (`SearchRun`), by one induction over the loop (`search_run`), and the same for `indexP`
  on any set (`ASet.indexP_run`).  Sortedness enters only afterwards (`ASet.index_spec` in ArraySetState).
-/
import Stevia.Model.ArraySet

namespace Stevia
variable {α κ : Type} [LinOrd κ]

/-- Same key (neither is less): the literal test of the loop's last arm; on keys it is `=` (`sameK_iff`). -/
def sameK (a b : κ) : Prop := ¬ a < b ∧ ¬ b < a

instance (a b : κ) : Decidable (sameK a b) := inferInstanceAs (Decidable (¬ a < b ∧ ¬ b < a))

theorem sameK_iff {a b : κ} : sameK a b ↔ a = b :=
  ⟨fun h => LinOrd.eq_of_not_lt h.1 h.2,
   fun h => by subst h; exact ⟨LinOrd.irrefl _, LinOrd.irrefl _⟩⟩

theorem not_sameK_of_lt {a b : κ} (h : a < b) : ¬ sameK a b := fun h' => h'.1 h
theorem not_sameK_of_gt {a b : κ} (h : b < a) : ¬ sameK a b := fun h' => h'.2 h

/-- A run of the loop over the positions `[s, n)` that answered `r` after probing `qs`, whatever the slots hold:
    the probes lie in the interval and halve it each time, and the answer is certified by the slots next to it. -/
structure SearchRun (key : α → κ) (vals : List α) (x : κ) (s n : Nat) (r : Idx) (qs : List Nat) : Prop where
  probes_in : ∀ p ∈ qs, s ≤ p ∧ p < n
  probes_log : ∀ k, qs.length = k + 1 → 2 ^ k ≤ n - s
  found : ∀ i, r = .found i → s ≤ i ∧ i < n ∧ ∃ y, vals[i]? = some y ∧ sameK (key y) x
  absent : ∀ i, r = .absent i → s ≤ i ∧ i ≤ n ∧
    (i = s ∨ ∃ y, vals[i - 1]? = some y ∧ key y < x) ∧ (i = n ∨ ∃ y, vals[i]? = some y ∧ x < key y)

namespace SearchRun
variable {key : α → κ} {vals : List α} {x : κ} {s n s' n' m : Nat} {r : Idx} {qs : List Nat} {y : α}

theorem empty (h : s = n) : SearchRun key vals x s n (.absent s) [] where
  probes_in := fun p hp => by cases hp
  probes_log := fun k hk => by cases hk
  found := fun i hi => by cases hi
  absent := fun i hi => by cases hi; exact ⟨Nat.le_refl _, Nat.le_of_eq h, Or.inl rfl, Or.inl h⟩

theorem hit (hs : s ≤ m) (hn : m < n) (hy : vals[m]? = some y) (hk : sameK (key y) x) :
    SearchRun key vals x s n (.found m) [m] where
  probes_in := fun p hp => by rw [List.mem_singleton.mp hp]; exact ⟨hs, hn⟩
  probes_log := fun k hk => by
    have : k = 0 := by simpa using hk.symm
    subst this
    exact Nat.sub_pos_of_lt (Nat.lt_of_le_of_lt hs hn)
  found := fun i hi => by cases hi; exact ⟨hs, hn, y, hy, hk⟩
  absent := fun i hi => by cases hi

/-- The `Less if end == start => break` arm. -/
theorem brk (hn : s < n) (hy : vals[s]? = some y) (hxy : x < key y) :
    SearchRun key vals x s n (.absent s) [s] where
  probes_in := fun p hp => by rw [List.mem_singleton.mp hp]; exact ⟨Nat.le_refl _, hn⟩
  probes_log := fun k hk => by
    have : k = 0 := by simpa using hk.symm
    subst this
    exact Nat.sub_pos_of_lt hn
  found := fun i hi => by cases hi
  absent := fun i hi => by cases hi; exact ⟨Nat.le_refl _, Nat.le_of_lt hn, Or.inl rfl, Or.inr ⟨y, hy, hxy⟩⟩

/-- A run on a sub-interval at most half as wide, entered after probing `m`, is a run on the interval, provided an
    answer at either end of the sub-interval is still certified. -/
theorem sub (h : SearchRun key vals x s' n' r qs) (hs : s ≤ s') (hn : n' ≤ n) (hsm : s ≤ m) (hmn : m < n)
    (hw : 2 * (n' - s') ≤ n - s)
    (hlo : ∀ i, r = .absent i → i = s' → i = s ∨ ∃ y, vals[i - 1]? = some y ∧ key y < x)
    (hhi : ∀ i, r = .absent i → i = n' → i = n ∨ ∃ y, vals[i]? = some y ∧ x < key y) :
    SearchRun key vals x s n r (m :: qs) where
  probes_in := fun p hp => by
    rcases List.mem_cons.mp hp with rfl | hp
    · exact ⟨hsm, hmn⟩
    · have := h.probes_in p hp
      exact ⟨Nat.le_trans hs this.1, Nat.lt_of_lt_of_le this.2 hn⟩
  probes_log := fun k hk => by
    cases k with
    | zero => exact Nat.sub_pos_of_lt (Nat.lt_of_le_of_lt hsm hmn)
    | succ k =>
      have := h.probes_log k (by simpa using hk)
      rw [Nat.pow_succ, Nat.mul_comm]
      exact Nat.le_trans (Nat.mul_le_mul_left 2 this) hw
  found := fun i hi => by
    obtain ⟨h1, h2, h3⟩ := h.found i hi
    exact ⟨Nat.le_trans hs h1, Nat.lt_of_lt_of_le h2 hn, h3⟩
  absent := fun i hi => by
    obtain ⟨h1, h2, h3, h4⟩ := h.absent i hi
    exact ⟨Nat.le_trans hs h1, Nat.le_trans h2 hn, h3.elim (hlo i hi) Or.inr, h4.elim (hhi i hi) Or.inr⟩

theorem right (h : SearchRun key vals x (m + 1) n r qs) (hsm : s ≤ m) (hmn : m < n)
    (hw : 2 * (n - (m + 1)) ≤ n - s) (hy : vals[m]? = some y) (hyx : key y < x) :
    SearchRun key vals x s n r (m :: qs) :=
  h.sub (Nat.le_succ_of_le hsm) (Nat.le_refl _) hsm hmn hw
    (fun i _ hi => Or.inr ⟨y, by rw [hi]; exact hy, hyx⟩) (fun _ _ hi => Or.inl hi)

/-- An answer `m - 1 + 1` is `m`, certified by the probe — except in the saturating corner `m = 0`, where the rest is
    a run on `[0, 0]` and cannot answer `1`: that would need `key vals[0] < x`. -/
theorem left (h : SearchRun key vals x s (m - 1 + 1) r qs) (hsm : s ≤ m) (hmn : m < n)
    (hw : 2 * (m - 1 + 1 - s) ≤ n - s) (hy : vals[m]? = some y) (hxy : x < key y) :
    SearchRun key vals x s n r (m :: qs) := by
  refine h.sub (Nat.le_refl _) (by omega) hsm hmn hw (fun _ _ hi => Or.inl hi) fun i hi him => ?_
  rcases Nat.eq_zero_or_pos m with rfl | hm
  · obtain ⟨_, _, h3 | ⟨z, hz, hzx⟩, _⟩ := h.absent i hi
    · omega
    · rw [him, hy] at hz
      cases hz
      exact absurd hxy (LinOrd.asymm hzx)
  · exact Or.inr ⟨y, by rw [him, Nat.sub_add_cancel hm]; exact hy, hxy⟩

end SearchRun

/-- One iteration on `[s, e]` with fuel `f + 1`: the midpoint lies inside, and either remaining interval (`[s, m - 1]`
    only when `s < e`; the subtraction saturates) is at most half as wide and the fuel left suffices for it.  Proved
    once, in an empty context, so that no proof about the loop does arithmetic with `/ 2`: the callers generalise the
    midpoint. -/
theorem mid_facts {s e f : Nat} (h : s ≤ e) (hf : e + 1 - s < f + 1) :
    s ≤ s + (e - s) / 2 ∧ s + (e - s) / 2 ≤ e ∧
    (2 * (e + 1 - (s + (e - s) / 2 + 1)) ≤ e + 1 - s ∧ e + 1 - (s + (e - s) / 2 + 1) < f) ∧
    (e ≠ s → s + (e - s) / 2 - 1 ≤ e ∧ s ≤ s + (e - s) / 2 - 1 + 1 ∧
      2 * (s + (e - s) / 2 - 1 + 1 - s) ≤ e + 1 - s ∧ s + (e - s) / 2 - 1 + 1 - s < f) := by
  have hm : 2 * (s + (e - s) / 2) ≤ s + e ∧ s + e ≤ 2 * (s + (e - s) / 2) + 1 := by omega
  generalize s + (e - s) / 2 = m at hm ⊢
  omega

open ASet in
theorem search_run {key : α → κ} {vals : List α} (x : κ) :
    ∀ (fuel s e : Nat) (ps : List Nat), s ≤ e + 1 → e + 1 - s < fuel →
      match search key vals x fuel s e ps with
      | .error _ => vals.length ≤ e
      | .ok (r, ps') => ∃ qs, ps' = ps ++ qs ∧ SearchRun key vals x s (e + 1) r qs := by
  intro fuel
  induction fuel with
  | zero => intro s e ps _ hf; exact absurd hf (Nat.not_lt_zero _)
  | succ fuel ih =>
    intro s e ps hse hf
    unfold search
    by_cases hle : s ≤ e
    · obtain ⟨hsm, hme, ⟨hwr, hfr⟩, hl⟩ := mid_facts hle hf
      simp only [hle, if_true]
      generalize s + (e - s) / 2 = m at hsm hme hwr hfr hl ⊢
      have hmn : m < e + 1 := Nat.lt_succ_of_le hme
      -- the rest of the loop runs on `[s', e']` after the probe `m`
      have rest : ∀ s' e', e' ≤ e → s' ≤ e' + 1 → e' + 1 - s' < fuel →
          (∀ r qs, SearchRun key vals x s' (e' + 1) r qs → SearchRun key vals x s (e + 1) r (m :: qs)) →
          match search key vals x fuel s' e' (ps ++ [m]) with
          | .error _ => vals.length ≤ e
          | .ok (r, ps') => ∃ qs, ps' = ps ++ qs ∧ SearchRun key vals x s (e + 1) r qs := by
        intro s' e' he hse' hf' hrun
        have := ih s' e' (ps ++ [m]) hse' hf'
        revert this
        cases search key vals x fuel s' e' (ps ++ [m]) with
        | error _ => exact fun h => Nat.le_trans h he
        | ok rp =>
          rintro ⟨qs, hps, h⟩
          exact ⟨m :: qs, by rw [hps, List.append_assoc]; rfl, hrun _ _ h⟩
      cases hy : vals[m]? with
      | none => exact Nat.le_trans (List.getElem?_eq_none_iff.mp hy) hme
      | some y =>
        simp only []
        by_cases h1 : x < key y
        · by_cases h2 : e = s
          · subst h2
            simp only [h1, if_true]
            cases Nat.le_antisymm hme hsm
            exact ⟨_, rfl, .brk hmn hy h1⟩
          · simp only [h1, h2, if_true, if_false]
            obtain ⟨he', hse', hwl, hfl⟩ := hl h2
            exact rest s (m - 1) he' hse' hfl fun r qs h => h.left hsm hmn hwl hy h1
        · by_cases h3 : key y < x
          · simp only [h1, h3, if_true, if_false]
            exact rest (m + 1) e (Nat.le_refl _) (Nat.succ_le_succ hme) hfr fun r qs h => h.right hsm hmn hwr hy h3
          · simp only [h1, h3, if_false]
            exact ⟨[m], rfl, .hit hsm hmn hy ⟨h3, h1⟩⟩
    · simp only [hle, if_false]
      exact ⟨[], (List.append_nil _).symm, .empty (Nat.le_antisymm hse (Nat.lt_of_not_le hle))⟩

namespace ASet
variable {key : α → κ} {s : ASet α}

theorem indexP_run (key : α → κ) (s : ASet α) (x : κ) :
    match s.indexP key x with
    | .error _ => s.vals.length < s.len
    | .ok (r, ps) => SearchRun key s.vals x 0 s.len r ps := by
  unfold indexP
  by_cases h0 : s.len = 0
  · simp only [h0, if_true]
    exact .empty rfl
  · simp only [h0, if_false]
    have hl : s.len - 1 + 1 = s.len := Nat.sub_add_cancel (Nat.pos_of_ne_zero h0)
    have := search_run (key := key) (vals := s.vals) x (s.len + 1) 0 (s.len - 1) [] (Nat.zero_le _)
      (by rw [hl]; exact Nat.lt_succ_self _)
    revert this
    cases search key s.vals x (s.len + 1) 0 (s.len - 1) [] with
    | error _ => exact fun h => hl ▸ Nat.lt_succ_of_le h
    | ok rp =>
      rintro ⟨qs, hq, h⟩
      rw [List.nil_append] at hq
      subst hq
      exact hl ▸ h

theorem indexP_ok_run {x : κ} {r : Idx} {ps : List Nat} (h : s.indexP key x = .ok (r, ps)) :
    SearchRun key s.vals x 0 s.len r ps := by
  have hr := indexP_run key s x
  rw [h] at hr
  exact hr

theorem index_ok_iff {x : κ} {r : Idx} : s.index key x = .ok r ↔ ∃ ps, s.indexP key x = .ok (r, ps) := by
  unfold index
  cases s.indexP key x with
  | error e => simp [Except.map]
  | ok rp => simp [Except.map, Prod.ext_iff]

end ASet
end Stevia
