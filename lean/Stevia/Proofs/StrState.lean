/-
  Stevia.Proofs.StrState — prefixed strings, pod strings, pod bool/option/load:
  UTF-8 validity of everything handed out, and the functional specifications.
-/
import Stevia.Model.Str
import Stevia.Proofs.Bytes

namespace Stevia

theorem toList_loop_eq (b : ByteArray) (i : Nat) (r : List UInt8) :
    ByteArray.toList.loop b i r = r.reverse ++ b.data.toList.drop i := by
  fun_induction ByteArray.toList.loop b i r with
  | case1 i r h ih =>
    rw [ih]
    have hi : i < b.data.toList.length := by simpa using h
    rw [List.drop_eq_getElem_cons hi]
    have : b.get! i = b.data.toList[i] := by
      cases b with | mk d =>
      simp [ByteArray.get!]
      have : i < d.size := h
      simp [this]
    simp [this]
  | case2 i r h =>
    have : b.data.toList.length ≤ i := by
      have : ¬ i < b.data.size := h
      simp; omega
    simp [List.drop_eq_nil_of_le this]

/-- `ByteArray.toList` is defined by a loop. -/
theorem toList_eq (b : ByteArray) : b.toList = b.data.toList := by
  simp [ByteArray.toList, toList_loop_eq]

theorem leBA_size (w x : Nat) : (leBA w x).size = w := by
  simp [leBA, ByteArray.size, leEnc_length]

theorem zerosBA_size (n : Nat) : (zerosBA n).size = n := by
  simp [zerosBA, ByteArray.size]

theorem leOfBA_leBA (w x : Nat) : leOfBA (leBA w x) = x % 256 ^ w := by
  simp [leOfBA, toList_eq, leBA, leDec_leEnc]

theorem zerosBA_succ (n : Nat) : zerosBA (n+1) = (zerosBA n).push (Char.ofNat 0).toUInt8 := by
  apply ByteArray.ext
  have : (Char.ofNat 0).toUInt8 = 0 := by decide
  simp [zerosBA, ByteArray.data_push, Array.replicate_succ, this]

theorem zerosBA_valid (n : Nat) : (zerosBA n).IsValidUTF8 := by
  induction n with
  | zero => exact ByteArray.isValidUTF8_empty
  | succ n ih =>
    rw [zerosBA_succ]
    exact ih.push (by decide)

theorem floorBoundary_le (s : String) (n : Nat) : floorBoundary s n ≤ n := by
  induction n with
  | zero => simp [floorBoundary]
  | succ n ih =>
    simp only [floorBoundary]
    split <;> omega

theorem floorBoundary_isValid (s : String) (n : Nat) : (String.Pos.Raw.mk (floorBoundary s n)).IsValid s := by
  induction n with
  | zero => exact String.Pos.Raw.isValid_zero
  | succ n ih =>
    simp only [floorBoundary]
    split
    · next h => exact String.Pos.Raw.isValid_eq_true_iff.mp h
    · exact ih

theorem floorBoundary_max (s : String) (n m : Nat) (hm : m ≤ n) (hv : (String.Pos.Raw.mk m).IsValid s) :
    m ≤ floorBoundary s n := by
  induction n with
  | zero => omega
  | succ n ih =>
    simp only [floorBoundary]
    split
    · exact hm
    · next h =>
      by_cases hmn : m = n + 1
      · subst hmn
        exact absurd (String.Pos.Raw.isValid_eq_true_iff.mpr hv) h
      · exact ih (by omega)

theorem ofNat_ne_zero {n : Nat} (h0 : 0 < n) (h : n < 256) : UInt8.ofNat n ≠ 0 := by
  intro he
  have := congrArg UInt8.toNat he
  rw [UInt8.toNat_ofNat', Nat.mod_eq_of_lt h] at this
  exact Nat.ne_of_gt h0 this

/-- A byte `x % m + k`, marker bits `k` above `m` payload values, is not zero.  The side conditions come as one
    conjunction, which `by decide` closes for the numerals of `utf8EncodeChar`. -/
theorem marked_ne_zero (a : Nat) {m k : Nat} (h : 0 < m ∧ 0 < k ∧ m + k ≤ 256) : UInt8.ofNat (a % m + k) ≠ 0 := by
  have := Nat.mod_lt a h.1
  exact ofNat_ne_zero (by omega) (by omega)

theorem utf8EncodeChar_ne_zero (c : Char) (hc : c ≠ Char.ofNat 0) :
    ∀ b ∈ String.utf8EncodeChar c, b ≠ 0 := by
  have hv : 0 < c.val.toNat := by
    apply Nat.pos_of_ne_zero
    intro h
    apply hc
    apply Char.ext
    apply UInt32.toNat_inj.mp
    rw [h]; rfl
  -- a one-byte encoding is the code point itself; every other byte carries marker bits
  unfold String.utf8EncodeChar
  simp only []
  by_cases h1 : c.val.toNat ≤ 127
  · rw [if_pos h1]
    simp only [List.mem_singleton, forall_eq]
    exact ofNat_ne_zero hv (by omega)
  rw [if_neg h1]
  by_cases h2 : c.val.toNat ≤ 2047
  · rw [if_pos h2]
    simp only [List.mem_cons, List.not_mem_nil, or_false, forall_eq_or_imp, forall_eq]
    exact ⟨marked_ne_zero _ (by decide), marked_ne_zero _ (by decide)⟩
  rw [if_neg h2]
  by_cases h3 : c.val.toNat ≤ 65535
  · rw [if_pos h3]
    simp only [List.mem_cons, List.not_mem_nil, or_false, forall_eq_or_imp, forall_eq]
    exact ⟨marked_ne_zero _ (by decide), marked_ne_zero _ (by decide), marked_ne_zero _ (by decide)⟩
  · rw [if_neg h3]
    simp only [List.mem_cons, List.not_mem_nil, or_false, forall_eq_or_imp, forall_eq]
    exact ⟨marked_ne_zero _ (by decide), marked_ne_zero _ (by decide), marked_ne_zero _ (by decide),
      marked_ne_zero _ (by decide)⟩

theorem string_bytes_ne_zero (s : String) (hnul : ∀ c ∈ s.toList, c ≠ Char.ofNat 0) :
    ∀ b ∈ s.toByteArray.data.toList, b ≠ 0 := by
  rw [← String.utf8Encode_toList, List.utf8Encode, List.toList_data_toByteArray]
  intro b hb
  rw [List.mem_flatMap] at hb
  obtain ⟨c, hc, hbc⟩ := hb
  exact utf8EncodeChar_ne_zero c (hnul c hc) b hbc

theorem floorBoundary_fits (s : String) {L : Nat} (hfit : s.utf8ByteSize ≤ L) :
    floorBoundary s (min L s.utf8ByteSize) = s.utf8ByteSize := by
  rw [Nat.min_eq_right hfit]
  exact Nat.le_antisymm (floorBoundary_le _ _)
    (floorBoundary_max _ _ _ (Nat.le_refl _) String.Pos.Raw.isValid_rawEndPos)

namespace PStr

/-- The buffer `new` leaves: the clamped length in the prefix, the rest unchanged. -/
def newBuf (w P : Nat) (buf : ByteArray) : ByteArray :=
  leBA w (min (buf.size - w) P) ++ buf.extract w buf.size

theorem newBuf_size (w P : Nat) (buf : ByteArray) (hw : w ≤ buf.size) : (newBuf w P buf).size = buf.size :=
  size_append_tail (leBA_size _ _) hw

theorem newBuf_recLen (w P : Nat) (hP : P < 256 ^ w) (buf : ByteArray) :
    recLen w (newBuf w P buf) = min (buf.size - w) P := by
  rw [recLen, newBuf, ByteArray.extract_append_eq_left (leBA_size _ _).symm, leOfBA_leBA]
  exact Nat.mod_eq_of_lt (Nat.lt_of_le_of_lt (Nat.min_le_right _ _) hP)

theorem newBuf_payload (w P : Nat) (hP : P < 256 ^ w) (buf : ByteArray) (hw : w ≤ buf.size) :
    payload w (newBuf w P buf) = buf.extract w (w + min (buf.size - w) P) := by
  rw [payload, newBuf_recLen w P hP, newBuf, extract_append_from _ (leBA_size _ _).symm,
    ByteArray.extract_extract, Nat.add_zero]
  congr 1
  have := Nat.min_le_left (buf.size - w) P
  omega

/-- `new`: a buffer shorter than the prefix is rejected by panic; otherwise the buffer keeps its size,
    the recorded length is `min(len - w, P)` — clamped, never wrapped — and only the prefix bytes change. -/
theorem new_spec (w P : Nat) (hP : P < 256 ^ w) (buf : ByteArray) :
    (buf.size < w ∧ new w P buf = .error .oob) ∨
    (w ≤ buf.size ∧ ∃ b' r, new w P buf = .ok (b', r) ∧ b'.size = buf.size ∧
        recLen w b' = min (buf.size - w) P ∧ b'.extract w b'.size = buf.extract w buf.size ∧
        payload w b' = buf.extract w (w + min (buf.size - w) P) ∧
        (r = true ↔ (payload w b').IsValidUTF8)) := by
  by_cases h : buf.size < w
  · left; exact ⟨h, by simp [new, h]⟩
  · right
    have hw : w ≤ buf.size := Nat.le_of_not_lt h
    have hsz := newBuf_size w P buf hw
    have hrec := newBuf_recLen w P hP buf
    refine ⟨hw, newBuf w P buf, _, by simp only [new, h, if_false]; rfl, hsz, hrec, ?_,
      newBuf_payload w P hP buf hw, ?_⟩
    · exact ByteArray.extract_append_eq_right (leBA_size _ _).symm ByteArray.size_append
    · rw [← ByteArray.validateUTF8_eq_true_iff, payload, hrec]
      exact Iff.rfl

theorem payload_size (w : Nat) (buf : ByteArray) (hw : w + recLen w buf ≤ buf.size) :
    (payload w buf).size = recLen w buf := by
  rw [payload, size_extract_le hw, Nat.add_sub_cancel_left]

theorem fromBytes_spec (w : Nat) (buf : ByteArray) (hw : w ≤ buf.size) (hl : recLen w buf ≤ buf.size - w) :
    fromBytes w buf = .ok (if (payload w buf).validateUTF8 then some (payload w buf) else none) ∧
    ((payload w buf).validateUTF8 = true ↔ (payload w buf).IsValidUTF8) := by
  refine ⟨?_, ByteArray.validateUTF8_eq_true_iff⟩
  rw [fromBytes, if_neg (Nat.not_lt.2 hw), if_neg (Nat.not_lt.2 hl)]

/-- `copy_from_str`: the buffer keeps its size, the prefix (hence the recorded length) is unchanged,
    bytes beyond the payload are untouched, and the payload becomes the longest prefix of `s`
    that fits without splitting a character, followed by zeros — so nothing of the earlier content survives. -/
theorem copy_spec (w : Nat) (buf : ByteArray) (s : String) (hw : w ≤ buf.size)
    (hl : recLen w buf ≤ buf.size - w) :
    let n := floorBoundary s (min (recLen w buf) s.utf8ByteSize)
    (copyFromStr w buf s).size = buf.size ∧
    recLen w (copyFromStr w buf s) = recLen w buf ∧
    payload w (copyFromStr w buf s) = s.toByteArray.extract 0 n ++ zerosBA (recLen w buf - n) ∧
    (copyFromStr w buf s).extract (w + recLen w buf) buf.size = buf.extract (w + recLen w buf) buf.size := by
  intro n
  have hn : n ≤ recLen w buf := Nat.le_trans (floorBoundary_le _ _) (Nat.min_le_left _ _)
  have hns : n ≤ s.toByteArray.size := by
    rw [String.size_toByteArray]; exact Nat.le_trans (floorBoundary_le _ _) (Nat.min_le_right _ _)
  have hwl : w + recLen w buf ≤ buf.size := by omega
  have hcopy : copyFromStr w buf s = buf.extract 0 w ++ (s.toByteArray.extract 0 n ++ zerosBA (recLen w buf - n))
      ++ buf.extract (w + recLen w buf) buf.size := by
    simp only [copyFromStr, ByteArray.append_assoc]; rfl
  have hA : (buf.extract 0 w).size = w := size_extract_le hw
  have hP : (s.toByteArray.extract 0 n ++ zerosBA (recLen w buf - n)).size = recLen w buf := by
    rw [ByteArray.size_append, size_extract_le hns, zerosBA_size]; exact Nat.add_sub_cancel' hn
  have hAP : (buf.extract 0 w ++ (s.toByteArray.extract 0 n ++ zerosBA (recLen w buf - n))).size
      = w + recLen w buf := by rw [ByteArray.size_append, hA, hP]
  have hT : (buf.extract (w + recLen w buf) buf.size).size = buf.size - (w + recLen w buf) :=
    size_extract_le (Nat.le_refl _)
  have hrec : recLen w (copyFromStr w buf s) = recLen w buf := by
    rw [hcopy, recLen, ByteArray.append_assoc, ByteArray.extract_append_eq_left hA.symm]; rfl
  refine ⟨?_, hrec, ?_, ?_⟩
  · rw [hcopy, ByteArray.size_append, hAP, hT, Nat.add_sub_cancel' hwl]
  · rw [payload, hrec, hcopy]
    exact extract_mid hA.symm (by rw [hP])
  · rw [hcopy]
    exact ByteArray.extract_append_eq_right hAP.symm (by rw [hAP, hT, Nat.add_sub_cancel' hwl])

/-- After any copy the payload is valid UTF-8 (C11): cut at a char boundary, padded with NULs. -/
theorem copy_valid (w : Nat) (buf : ByteArray) (s : String) (hw : w ≤ buf.size)
    (hl : recLen w buf ≤ buf.size - w) : (payload w (copyFromStr w buf s)).IsValidUTF8 := by
  rw [(copy_spec w buf s hw hl).2.2.1]
  exact (floorBoundary_isValid _ _).isValidUTF8_extract_zero.append (zerosBA_valid _)

theorem reload_after_copy (w : Nat) (buf : ByteArray) (s : String) (hw : w ≤ buf.size)
    (hl : recLen w buf ≤ buf.size - w) :
    fromBytes w (copyFromStr w buf s) = .ok (some (payload w (copyFromStr w buf s))) := by
  obtain ⟨h1, h2, -, -⟩ := copy_spec w buf s hw hl
  have := (fromBytes_spec w (copyFromStr w buf s) (by omega) (by omega)).1
  rw [this, ByteArray.validateUTF8_eq_true_iff.mpr (copy_valid w buf s hw hl)]
  rfl

set_option linter.unusedVariables false in
/-- The result of a copy does not depend on the earlier payload: two buffers with the same prefix
    and the same bytes beyond the payload give the same buffer. -/
theorem copy_forgets (w : Nat) (b1 b2 : ByteArray) (s : String) (hs : b1.size = b2.size)
    (hw : w ≤ b1.size) (hp : b1.extract 0 w = b2.extract 0 w) (hl : recLen w b1 ≤ b1.size - w)
    (ht : b1.extract (w + recLen w b1) b1.size = b2.extract (w + recLen w b1) b2.size) :
    copyFromStr w b1 s = copyFromStr w b2 s := by
  have hr : recLen w b1 = recLen w b2 := by unfold recLen; rw [hp]
  unfold copyFromStr
  simp only
  rw [← hr, hp, ht]

end PStr

namespace PodStr

theorem ofBytes_size (N : Nat) (src : ByteArray) : (ofBytes N src).size = N := by
  rw [ofBytes, ByteArray.size_append, size_extract_le (Nat.min_le_left _ _), zerosBA_size]
  exact Nat.add_sub_cancel' (Nat.min_le_right _ _)

theorem ofBytes_get (N : Nat) (src : ByteArray) (i : Nat) (hi : i < N) :
    (ofBytes N src).toList[i]? = some (if h : i < src.size then src[i] else 0) := by
  rw [toList_eq]
  simp only [ofBytes, ByteArray.data_append, ByteArray.data_extract, zerosBA, Array.toList_append]
  have hL : (src.data.extract 0 (min src.size N)).toList.length = min src.size N := by
    rw [Array.length_toList, Array.size_extract, ByteArray.size_data, Nat.min_eq_left (Nat.min_le_left _ _)]; rfl
  by_cases h : i < src.size
  · have h' : i < (src.data.extract 0 (min src.size N)).toList.length := by
      rw [hL]; exact Nat.lt_min.2 ⟨h, hi⟩
    rw [List.getElem?_append_left h', List.getElem?_eq_getElem h']
    simp [h, ByteArray.getElem_eq_getElem_data]
  · have hm : min src.size N ≤ i := Nat.le_trans (Nat.min_le_left _ _) (Nat.le_of_not_lt h)
    rw [List.getElem?_append_right (by rw [hL]; exact hm), hL]
    simp only [h, dite_false, Array.toList_replicate]
    rw [List.getElem?_replicate, if_pos (Nat.sub_lt_sub_right hm hi)]

theorem asStr_spec (v : ByteArray) :
    (asStr v = some (text v) ∧ (text v).IsValidUTF8) ∨ (asStr v = none ∧ ¬ (text v).IsValidUTF8) := by
  unfold asStr
  by_cases h : (text v).validateUTF8 = true
  · left; exact ⟨by simp [h], ByteArray.validateUTF8_eq_true_iff.mp h⟩
  · right; exact ⟨by simp [h], fun h' => h (ByteArray.validateUTF8_eq_true_iff.mpr h')⟩

theorem endIndex_eq (v : ByteArray) : endIndex v = v.data.toList.findIdx (· == 0) := by
  rw [endIndex, toList_eq, List.findIdx_eq_getD_findIdx?, Array.length_toList, ByteArray.size_data]

theorem text_spec (v : ByteArray) :
    endIndex v ≤ v.size ∧ (∀ i, i < endIndex v → v.toList[i]? ≠ some 0) ∧
    (endIndex v < v.size → v.toList[endIndex v]? = some 0) := by
  have hlen : v.data.toList.length = v.size := by rw [Array.length_toList, ByteArray.size_data]
  rw [endIndex_eq, toList_eq, ← hlen]
  refine ⟨List.findIdx_le_length, fun i hi hget => ?_, fun h => ?_⟩
  · have := List.not_of_lt_findIdx hi
    rw [List.getElem?_eq_getElem (Nat.lt_of_lt_of_le hi List.findIdx_le_length), Option.some.injEq] at hget
    simp [hget] at this
  · rw [List.getElem?_eq_getElem h]
    simpa using List.findIdx_getElem (w := h)

theorem asStr_roundtrip (N : Nat) (s : String) (hfit : s.utf8ByteSize ≤ N) (hnul : ∀ c ∈ s.toList, c ≠ Char.ofNat 0) :
    asStr (ofStr N s) = some s.toByteArray := by
  have hsz : s.toByteArray.size = s.utf8ByteSize := String.size_toByteArray
  have hof : ofStr N s = s.toByteArray ++ zerosBA (N - s.utf8ByteSize) := by
    unfold ofStr ofBytes
    rw [hsz, Nat.min_eq_left hfit, ← hsz, ByteArray.extract_zero_size]
  -- the first NUL is the first byte of the padding, if there is any
  have hend : endIndex (ofStr N s) = s.toByteArray.size := by
    have hnone : s.toByteArray.data.toList.findIdx (· == 0) = s.toByteArray.data.toList.length :=
      List.findIdx_eq_length_of_false fun x hx => by simpa using string_bytes_ne_zero s hnul x hx
    rw [endIndex_eq, hof, ByteArray.data_append, Array.toList_append, List.findIdx_append, hnone,
      if_neg (Nat.lt_irrefl _), Array.length_toList, ByteArray.size_data]
    cases N - s.utf8ByteSize <;> simp [zerosBA, Array.replicate_succ', List.findIdx_cons]
  unfold asStr text
  rw [hend, hof, ByteArray.extract_append_eq_left rfl, ByteArray.validateUTF8_eq_true_iff.mpr s.isValidUTF8]
  rfl

/-- Holds by definition; that the source's `Display` writes this text is `C14.translated_display_is_text`. -/
theorem display_eq (v t : ByteArray) (h : asStr v = some t) : display v = some t := h

end PodStr

namespace Pod

theorem boolDecode_spec (b : UInt8) : boolDecode b = true ↔ b ≠ 0 := by
  simp [boolDecode]

/-- bool → pod → bool is the identity, with encodings 0 and 1. -/
theorem bool_roundtrip (x : Bool) : boolDecode (boolEncode x) = x ∧ (boolEncode x = 0 ∨ boolEncode x = 1) := by
  cases x <;> simp [boolDecode, boolEncode]

theorem load_spec (n : Nat) (data : ByteArray) :
    (data.size < n ∧ load n data = .error .oob) ∨
    (n ≤ data.size ∧ load n data = .ok (data.extract 0 n) ∧ (data.extract 0 n).size = n) := by
  by_cases h : data.size < n
  · exact .inl ⟨h, if_pos h⟩
  · exact .inr ⟨Nat.le_of_not_lt h, if_neg h, size_extract_le (Nat.le_of_not_lt h)⟩

theorem load_ignores_trailing (n : Nat) (d1 d2 : ByteArray) (h1 : n ≤ d1.size) (h2 : n ≤ d2.size)
    (he : d1.extract 0 n = d2.extract 0 n) : load n d1 = load n d2 := by
  rw [load, load, if_neg (Nat.not_lt.2 h1), if_neg (Nat.not_lt.2 h2), he]

theorem storeMut_spec (n : Nat) (data v : ByteArray) (hv : v.size = n) (hd : n ≤ data.size) :
    ∃ d', storeMut n data v = .ok d' ∧ d'.size = data.size ∧ load n d' = .ok v ∧
      d'.extract n d'.size = data.extract n data.size := by
  have hvn : v.extract 0 n = v := by rw [← hv]; exact ByteArray.extract_zero_size
  have hsz : (v ++ data.extract n data.size).size = data.size := size_append_tail hv hd
  refine ⟨v ++ data.extract n data.size, ?_, hsz, ?_, ?_⟩
  · rw [storeMut, if_neg (Nat.not_lt.2 hd), hvn]
  · rw [load, if_neg (by rw [hsz]; exact Nat.not_lt.2 hd), ByteArray.extract_append_eq_left hv.symm]
  · exact ByteArray.extract_append_eq_right hv.symm ByteArray.size_append

theorem optValue_spec (isSome : ByteArray → Bool) (inner : ByteArray) :
    ((optValue isSome inner).isSome = isSome inner) ∧ (isSome inner = true → optValue isSome inner = some inner) := by
  unfold optValue
  cases h : isSome inner <;> simp

end Pod

end Stevia

