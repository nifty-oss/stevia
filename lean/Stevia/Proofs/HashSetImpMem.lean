/-
  Stevia.Proofs.HashSetImpMem — reads and writes of the literal hash-set model (`HImp.rd/wr/rdB/wrB`) on an
  arbitrary image, record by record.
-/
import Stevia.Model.HashSetImp

namespace Stevia
variable {β : Type}

/-- A conditional write, field by field: successive writes to an image then compose to one record of `if`s. -/
theorem HRec.ite_eq (c : Prop) [Decidable c] (r r' : HRec β) :
    (if c then r else r') =
      ⟨if c then r.bucket else r'.bucket, if c then r.next else r'.next, if c then r.val else r'.val⟩ := by
  split <;> rfl

namespace HImp

theorem wr_wr (m : HImage β) (i : Nat) (f g : HRec β → HRec β) : wr (wr m i f) i g = wr m i (g ∘ f) := by
  unfold wr
  split
  · rfl
  · simp [List.modify_modify_eq]

@[simp] theorem wrB_hdr (m : HImage β) (b : Nat) (g : HRec β → HRec β) : (wrB m b g).hdr = m.hdr := rfl

@[simp] theorem wr_hdr (m : HImage β) (i : Nat) (g : HRec β → HRec β) : (wr m i g).hdr = m.hdr := by
  unfold wr; split <;> rfl

theorem wr_recs_mk (h : HHdr) (m : HImage β) (i : Nat) (g : HRec β → HRec β) :
    (wr { m with hdr := h } i g).recs = (wr m i g).recs := by
  unfold wr; split <;> rfl

@[simp] theorem wrB_recs_length (m : HImage β) (b : Nat) (g : HRec β → HRec β) :
    (wrB m b g).recs.length = m.recs.length := List.length_modify ..

@[simp] theorem wr_recs_length (m : HImage β) (i : Nat) (g : HRec β → HRec β) :
    (wr m i g).recs.length = m.recs.length := by
  unfold wr; split
  · rfl
  · exact List.length_modify ..

theorem wrB_getElem? (m : HImage β) (b j : Nat) (g : HRec β → HRec β) :
    (wrB m b g).recs[j]? = m.recs[j]?.map fun r => if j = b then g r else r := by
  simp only [wrB, List.getElem?_modify, eq_comm (a := b), Option.map_eq_map]

/-- Slot `i` is record `i - 1`; slot 0 is no record, and writing to it does nothing. -/
theorem wr_getElem? (m : HImage β) (i j : Nat) (g : HRec β → HRec β) :
    (wr m i g).recs[j]? = m.recs[j]?.map fun r => if j + 1 = i then g r else r := by
  cases i with
  | zero =>
    rw [wr, if_pos rfl]
    simp only [Nat.succ_ne_zero, if_false, Option.map_id']
  | succ i =>
    rw [wr, if_neg (Nat.succ_ne_zero i), ← wrB, wrB_getElem?]
    simp only [Nat.add_sub_cancel, Nat.succ_inj]

@[simp] theorem removeNode_hdr (d : HRec β) (m : HImage β) (i : Nat) :
    (removeNode d m i).hdr = { m.hdr with flh := i, size := m.hdr.size - 1 } := by
  simp [removeNode]

@[simp] theorem removeNode_recs_length (d : HRec β) (m : HImage β) (i : Nat) :
    (removeNode d m i).recs.length = m.recs.length := by
  simp [removeNode]

theorem removeNode_getElem? (d : HRec β) (m : HImage β) (i j : Nat) :
    (removeNode d m i).recs[j]? = m.recs[j]?.map fun r =>
      ⟨r.bucket, if j + 1 = i then m.hdr.flh else r.next, if j + 1 = i then d.val else r.val⟩ := by
  simp only [removeNode, wr_getElem?, HRec.ite_eq, ite_self]

theorem rd_of_getElem? (d : HRec β) {m : HImage β} {j : Nat} {rc : HRec β} (h : m.recs[j]? = some rc) :
    rd d m (j + 1) = rc := by
  simp [rd, List.getD_eq_getElem?_getD, h]

end HImp
end Stevia
