/-
  Stevia.Proofs.GenViewsFmt — the translated view constructors (`View.split`) accept what passes the guards of the format
  readers of the model (`TreeFmt.ofBytes`, `HFmt.ofBytes`, `AFmt.ofBytes`: at least a header, then whole records), so they
  open whatever a reader accepts; the array-set reader asks nothing more, the other two also re-encode and compare.  The
  translated `data_len` is the model's `dataLen`.
-/
import Stevia.Proofs.GenViews
import Stevia.Proofs.Codec

namespace Stevia
namespace View

/-- The model's codecs (`toBytes`/`ofBytes`) are functions on lists of bytes (`Bytes`); the translated view constructors,
    like the string and pod models, work on `ByteArray`, as the Rust slices do.  This is the one bridge between the two. -/
def ofList (bs : Bytes) : ByteArray := ⟨bs.toArray⟩

@[simp] theorem size_ofList (bs : Bytes) : (ofList bs).size = bs.length := by
  simp [ofList, ByteArray.size]

theorem accepts_iff (H R : Nat) (hR : R ≠ 0) (bs : Bytes) :
    (split H R (ofList bs)).isSome ↔ H ≤ bs.length ∧ (bs.length - H) % R = 0 := by
  rw [split_isSome_iff, size_ofList, castOk_iff hR]

/-- Each of the three `ofBytes` unfolds to this chain of guards. -/
theorem accepts_of_guards {α : Type} {H R : Nat} {bs : Bytes} {k : Option α} {x : α}
    (h : (if bs.length < H then none else if R = 0 then none
      else if (bs.length - H) % R ≠ 0 then none else k) = some x) :
    (split H R (ofList bs)).isSome :=
  have g := guards_eq_some.1 h
  (accepts_iff H R g.2.1 bs).2 ⟨g.1, g.2.2.1⟩

/-- Conversely the array-set reader accepts whatever the view accepts (it has no further condition). -/
theorem aset_reader_iff (f : AFmt) (hv : f.vsz ≠ 0) (bs : Bytes) :
    (f.ofBytes bs).isSome ↔ (split f.pw f.vsz (ofList bs)).isSome := by
  rw [accepts_iff _ _ hv, Option.isSome_iff_exists]
  constructor
  · rintro ⟨s, h⟩
    exact ⟨(guards_eq_some.1 h).1, (guards_eq_some.1 h).2.2.1⟩
  · rintro ⟨h1, h2⟩
    exact ⟨_, guards_eq_some.2 ⟨h1, hv, h2, rfl⟩⟩

theorem tree_dataLen (f : TreeFmt) (cap : Nat) : dataLen f.hdrSize f.recSize cap = f.dataLen cap := rfl
theorem hset_dataLen (f : HFmt) (cap : Nat) : dataLen f.hdrSize f.recSize cap = f.dataLen cap := rfl

/-! The translator's primitive-access table: `node!(..).get_register(Register::Left)` is rendered as `.left` of the
register image, `allocator.get_field(Field::Root)` as `.root` of the header, … The enums number their variants in
declaration order (`Facts.tree32Registers` / `tree32Fields` / `hsetRegisters` / `hsetFields`), the accessors index the word
array by that number (`GenV.accessors_eq`); laid out as words in declaration order, the image's fields are exactly what
the accessors select and update. -/

def recWords {α β : Type} (rc : Rec α β) : List Nat := [rc.left, rc.right, rc.height, rc.pad]
def hdrWords (h : Hdr) : List Nat := [h.root, h.size, h.cap, h.flh, h.seq]
def hrecWords {β : Type} (rc : HRec β) : List Nat := [rc.bucket, rc.next]
def hhdrWords (h : HHdr) : List Nat := [h.size, h.cap, h.flh, h.seq]

theorem tree_register_table {α β : Type} (rc : Rec α β) (v : Nat) :
    getWord (recWords rc) 0 = some rc.left ∧ getWord (recWords rc) 1 = some rc.right ∧
    getWord (recWords rc) 2 = some rc.height ∧
    setWord (recWords rc) 0 v = some (recWords { rc with left := v }) ∧
    setWord (recWords rc) 1 v = some (recWords { rc with right := v }) ∧
    setWord (recWords rc) 2 v = some (recWords { rc with height := v }) :=
  ⟨rfl, rfl, rfl, rfl, rfl, rfl⟩

theorem tree_field_table (h : Hdr) (v : Nat) :
    getWord (hdrWords h) 0 = some h.root ∧ getWord (hdrWords h) 1 = some h.size ∧ getWord (hdrWords h) 2 = some h.cap ∧
    getWord (hdrWords h) 3 = some h.flh ∧ getWord (hdrWords h) 4 = some h.seq ∧
    setWord (hdrWords h) 0 v = some (hdrWords { h with root := v }) ∧
    setWord (hdrWords h) 1 v = some (hdrWords { h with size := v }) ∧
    setWord (hdrWords h) 2 v = some (hdrWords { h with cap := v }) ∧
    setWord (hdrWords h) 3 v = some (hdrWords { h with flh := v }) ∧
    setWord (hdrWords h) 4 v = some (hdrWords { h with seq := v }) :=
  ⟨rfl, rfl, rfl, rfl, rfl, rfl, rfl, rfl, rfl, rfl⟩

theorem hset_tables {β : Type} (rc : HRec β) (h : HHdr) (v : Nat) :
    getWord (hrecWords rc) 0 = some rc.bucket ∧ getWord (hrecWords rc) 1 = some rc.next ∧
    setWord (hrecWords rc) 0 v = some (hrecWords { rc with bucket := v }) ∧
    setWord (hrecWords rc) 1 v = some (hrecWords { rc with next := v }) ∧
    getWord (hhdrWords h) 0 = some h.size ∧ getWord (hhdrWords h) 1 = some h.cap ∧
    getWord (hhdrWords h) 2 = some h.flh ∧ getWord (hhdrWords h) 3 = some h.seq ∧
    setWord (hhdrWords h) 0 v = some (hhdrWords { h with size := v }) ∧
    setWord (hhdrWords h) 1 v = some (hhdrWords { h with cap := v }) ∧
    setWord (hhdrWords h) 2 v = some (hhdrWords { h with flh := v }) ∧
    setWord (hhdrWords h) 3 v = some (hhdrWords { h with seq := v }) :=
  ⟨rfl, rfl, rfl, rfl, rfl, rfl, rfl, rfl, rfl, rfl, rfl, rfl⟩

end View
end Stevia
