/-
  Stevia.Proofs.HashSetLayoutRT — the decoder reads a state back from its layout.  What the registers of a slot hold is
  settled by where the slot stands: in a chain, on the free list, or nowhere (`HSet.slotReg`, `HSet.recAt_eq`).  Under
  `HSet.LayoutOk` no slot stands in two places, and the decoder's walks read the chains and the free list entry by entry.
-/
import Stevia.Model.HashSet
import Stevia.Model.HashSetLayout
import Stevia.Proofs.SlotAlloc

namespace Stevia

theorem mapM_eq_some_map {α γ : Type} {f : α → Option γ} {g : α → γ} :
    ∀ l : List α, (∀ a ∈ l, f a = some (g a)) → l.mapM f = some (l.map g)
  | [], _ => rfl
  | a :: l, h => by
    simp [List.mapM_cons, h a (by simp), mapM_eq_some_map l fun x hx => h x (List.mem_cons_of_mem _ hx)]

theorem take_eq_map_range_getD {α : Type} (l : List α) (d : α) {n : Nat} (hn : n ≤ l.length) :
    l.take n = (List.range n).map (l.getD · d) := by
  apply List.ext_getElem?
  intro j
  rw [List.getElem?_take, List.getElem?_map]
  by_cases hj : j < n
  · rw [if_pos hj, List.getElem?_range hj]
    simp [List.getD_eq_getElem?_getD, List.getElem?_eq_getElem (Nat.lt_of_lt_of_le hj hn)]
  · rw [if_neg hj, List.getElem?_eq_none (by simpa using hj)]
    rfl

theorem mem_flatMap_map {α γ : Type} (f : α → γ) {ls : List (List α)} {l : List α} {a : α} (hl : l ∈ ls)
    (ha : a ∈ l) : f a ∈ (ls.flatMap id).map f :=
  List.mem_map.2 ⟨a, List.mem_flatMap.2 ⟨l, hl, ha⟩, rfl⟩

variable {β : Type}

theorem HSet.mem_liveSlots {s : HSet β} {ch : List (Nat × β)} {e : Nat × β} (hc : ch ∈ s.chains) (he : e ∈ ch) :
    e.1 ∈ s.liveSlots :=
  mem_flatMap_map _ hc he

theorem HSet.mem_members {s : HSet β} {ch : List (Nat × β)} {e : Nat × β} (hc : ch ∈ s.chains) (he : e ∈ ch) :
    e.2 ∈ s.members :=
  mem_flatMap_map _ hc he

/-- What the register layout needs of a state to be decodable. -/
structure HSet.LayoutOk (s : HSet β) : Prop where
  nodup : (s.liveSlots ++ s.free).Nodup
  range : ∀ i ∈ s.liveSlots ++ s.free, 1 ≤ i ∧ i ≤ s.slots
  free_ne : ∀ i ∈ s.free, i ≠ s.seq

theorem chainNext_cons_ne {e : Nat × β} {l : List (Nat × β)} {k : Nat} (hk : k ≠ e.1) :
    chainNext (e :: l) k = chainNext l k := by
  cases l <;> simp [chainNext, hk]

theorem chainNext_head {e : Nat × β} {rest : List (Nat × β)} :
    chainNext (e :: rest) e.1 = some (HSet.headOf rest, e.2) := by
  cases rest <;> simp [chainNext, HSet.headOf]

theorem chainNext_none {ch : List (Nat × β)} {i : Nat} (h : i ∉ ch.map Prod.fst) :
    chainNext ch i = none := by
  induction ch with
  | nil => rfl
  | cons e rest ih =>
    rw [List.map_cons, List.mem_cons, not_or] at h
    rw [chainNext_cons_ne h.1, ih h.2]

theorem chainsNext_none {chains : List (List (Nat × β))} {i : Nat}
    (h : i ∉ (chains.flatMap id).map Prod.fst) : chainsNext chains i = none := by
  induction chains with
  | nil => rfl
  | cons c cs ih =>
    simp only [List.flatMap_cons, id, List.map_append, List.mem_append, not_or] at h
    simp [chainsNext, chainNext_none h.1, ih h.2]

theorem chainNext_suffix (pre : List (Nat × β)) (e : Nat × β) (rest : List (Nat × β))
    (hnd : ((pre ++ e :: rest).map Prod.fst).Nodup) :
    chainNext (pre ++ e :: rest) e.1 = some (HSet.headOf rest, e.2) := by
  induction pre with
  | nil => exact chainNext_head
  | cons p pre ih =>
    rw [List.cons_append, List.map_cons, List.nodup_cons] at hnd
    rw [List.cons_append, chainNext_cons_ne (fun he => hnd.1 (by simp [he]))]
    exact ih hnd.2

theorem chainsNext_suffix {chains : List (List (Nat × β))}
    (hnd : ((chains.flatMap id).map Prod.fst).Nodup) {pre : List (Nat × β)} {e : Nat × β}
    {rest : List (Nat × β)} (hm : pre ++ e :: rest ∈ chains) :
    chainsNext chains e.1 = some (HSet.headOf rest, e.2) := by
  induction chains with
  | nil => cases hm
  | cons c cs ih =>
    simp only [List.flatMap_cons, id, List.map_append] at hnd
    have hnd' := List.nodup_append.1 hnd
    rcases List.mem_cons.1 hm with rfl | hm
    · simp [chainsNext, chainNext_suffix pre e rest hnd'.1]
    · have hin : e.1 ∈ (cs.flatMap id).map Prod.fst := mem_flatMap_map _ hm (by simp)
      have hnc : e.1 ∉ c.map Prod.fst := fun hc => hnd'.2.2 _ hc _ hin rfl
      simp [chainsNext, chainNext_none hnc, ih hnd'.2.1 hm]

theorem chainNext_mem {ch : List (Nat × β)} {i nxt : Nat} {v : β}
    (h : chainNext ch i = some (nxt, v)) :
    (nxt = 0 ∨ nxt ∈ ch.map (·.1)) ∧ v ∈ ch.map (·.2) := by
  induction ch with
  | nil => cases h
  | cons e rest ih =>
    by_cases hi : i = e.1
    · rw [hi, chainNext_head, Option.some.injEq, Prod.mk.injEq] at h
      obtain ⟨rfl, rfl⟩ := h
      exact ⟨by cases rest <;> simp [HSet.headOf], by simp⟩
    · rw [chainNext_cons_ne hi] at h
      obtain ⟨h1, h2⟩ := ih h
      exact ⟨h1.imp id (List.mem_cons_of_mem _), List.mem_cons_of_mem _ h2⟩

theorem chainsNext_mem {chains : List (List (Nat × β))} {i nxt : Nat} {v : β}
    (h : chainsNext chains i = some (nxt, v)) :
    (nxt = 0 ∨ nxt ∈ (chains.flatMap id).map (·.1)) ∧ v ∈ (chains.flatMap id).map (·.2) := by
  induction chains with
  | nil => simp [chainsNext] at h
  | cons c cs ih =>
    simp only [chainsNext] at h
    simp only [List.flatMap_cons, id, List.map_append, List.mem_append]
    split at h
    · rename_i r heq
      cases h
      obtain ⟨h1, h2⟩ := chainNext_mem heq
      exact ⟨h1.imp id .inl, .inl h2⟩
    · obtain ⟨h1, h2⟩ := ih h
      exact ⟨h1.imp id .inr, .inr h2⟩

theorem HSet.image_recs_length (vd : β) (s : HSet β) : (s.image vd).recs.length = s.slots := by
  simp [HSet.image]

theorem HSet.image_recs_getElem? (vd : β) (s : HSet β) {j : Nat} (hj : j < s.slots) :
    (s.image vd).recs[j]? = some (s.recAt vd j) := by
  simp [HSet.image, List.getElem?_map, List.getElem?_range hj]

theorem HSet.mem_image_recs {vd : β} {s : HSet β} {rc : HRec β} (h : rc ∈ (s.image vd).recs) :
    ∃ j, j < s.slots ∧ rc = s.recAt vd j := by
  simp only [HSet.image, List.mem_map, List.mem_range] at h
  obtain ⟨j, hj, rfl⟩ := h
  exact ⟨j, hj, rfl⟩

-- These hold by `rfl`.  Where the header word stands in the condition of an `if`, rewrite with `rw`: `simp only` would
-- rewrite the condition without its `Decidable` instance, and a following `rw [if_neg _]` does not match.
theorem HSet.image_hdr_size (vd : β) (s : HSet β) : (s.image vd).hdr.size = s.size := rfl
theorem HSet.image_hdr_cap (vd : β) (s : HSet β) : (s.image vd).hdr.cap = s.cap := rfl
theorem HSet.image_hdr_flh (vd : β) (s : HSet β) : (s.image vd).hdr.flh = s.flhReg := rfl
theorem HSet.image_hdr_seq (vd : β) (s : HSet β) : (s.image vd).hdr.seq = s.seq := rfl

theorem HSet.flhReg_eq (s : HSet β) : s.flhReg = s.free.head?.getD s.seq := by
  unfold HSet.flhReg
  cases s.free <;> rfl

/-- The registers `(next, val)` of slot `i`, by where it stands: in a chain, on the free list, nowhere. -/
def HSet.slotReg (vd : β) (s : HSet β) (i : Nat) : Nat × β :=
  match chainsNext s.chains i with
  | some r => r
  | none =>
    match freeNext s.seq s.free i with
    | some n => (n, vd)
    | none => (0, vd)

theorem HSet.recAt_eq (vd : β) (s : HSet β) (j : Nat) :
    s.recAt vd j = ⟨HSet.headOf (s.chains.getD j []), (s.slotReg vd (j + 1)).1, (s.slotReg vd (j + 1)).2⟩ := by
  unfold HSet.recAt HSet.slotReg
  cases chainsNext s.chains (j + 1) with
  | some r => rfl
  | none => cases freeNext s.seq s.free (j + 1) <;> rfl

theorem HSet.slotReg_live {vd : β} {s : HSet β} {i : Nat} {r : Nat × β} (h : chainsNext s.chains i = some r) :
    s.slotReg vd i = r := by
  rw [HSet.slotReg, h]

theorem HSet.slotReg_free {vd : β} {s : HSet β} {i n : Nat} (h1 : chainsNext s.chains i = none)
    (h2 : freeNext s.seq s.free i = some n) : s.slotReg vd i = (n, vd) := by
  rw [HSet.slotReg, h1, h2]

theorem HSet.slotReg_congr {vd : β} {s s' : HSet β} {i : Nat} (h1 : chainsNext s'.chains i = chainsNext s.chains i)
    (h2 : freeNext s'.seq s'.free i = freeNext s.seq s.free i) : s'.slotReg vd i = s.slotReg vd i := by
  rw [HSet.slotReg, HSet.slotReg, h1, h2]

theorem HSet.slotReg_cases (vd : β) (s : HSet β) (i : Nat) :
    (∃ r, chainsNext s.chains i = some r ∧ s.slotReg vd i = r) ∨
    (∃ n, freeNext s.seq s.free i = some n ∧ s.slotReg vd i = (n, vd)) ∨ s.slotReg vd i = (0, vd) := by
  cases h1 : chainsNext s.chains i with
  | some r => exact .inl ⟨r, rfl, HSet.slotReg_live h1⟩
  | none =>
    cases h2 : freeNext s.seq s.free i with
    | some n => exact .inr (.inl ⟨n, rfl, HSet.slotReg_free h1 h2⟩)
    | none => exact .inr (.inr (by rw [HSet.slotReg, h1, h2]))

theorem HSet.recAt_bucket (vd : β) (s : HSet β) (j : Nat) :
    (s.recAt vd j).bucket = HSet.headOf (s.chains.getD j []) := by
  rw [HSet.recAt_eq]

/-- The record of a live slot. From this `walkChain` reads a chain off its head, and so does every loop of the literal
    model. -/
theorem HSet.LayoutOk.rec_live {s : HSet β} (h : s.LayoutOk) (vd : β) {pre : List (Nat × β)} {e : Nat × β}
    {rest : List (Nat × β)} (hm : pre ++ e :: rest ∈ s.chains) :
    ∃ j, e.1 = j + 1 ∧ j < s.slots ∧
      s.recAt vd j = ⟨HSet.headOf (s.chains.getD j []), HSet.headOf rest, e.2⟩ := by
  have hmem := HSet.mem_liveSlots hm (e := e) (by simp)
  have hr := h.range e.1 (List.mem_append_left _ hmem)
  have hcn := chainsNext_suffix (List.nodup_append.1 h.nodup).1 hm
  refine ⟨e.1 - 1, by omega, by omega, ?_⟩
  rw [← show e.1 - 1 + 1 = e.1 by omega] at hcn
  rw [HSet.recAt_eq, HSet.slotReg_live hcn]

/-- The record of a released slot. `walkFree` follows these; `add_node` reads the head's when it pops the list. -/
theorem HSet.LayoutOk.rec_free {s : HSet β} (h : s.LayoutOk) (vd : β) {pre : List Nat} {a : Nat} {rest : List Nat}
    (hf : s.free = pre ++ a :: rest) :
    ∃ j, a = j + 1 ∧ j < s.slots ∧
      s.recAt vd j = ⟨HSet.headOf (s.chains.getD j []), rest.head?.getD s.seq, vd⟩ := by
  have hmem : a ∈ s.free := by simp [hf]
  have hr := h.range a (List.mem_append_right _ hmem)
  have hnd := List.nodup_append.1 h.nodup
  have hni : a - 1 + 1 ∉ s.liveSlots := by
    rw [show a - 1 + 1 = a by omega]
    exact fun hm => hnd.2.2 _ hm _ hmem rfl
  have hfn : freeNext s.seq s.free (a - 1 + 1) = some (rest.head?.getD s.seq) := by
    rw [show a - 1 + 1 = a by omega, hf]
    exact freeNext_suffix pre a rest (hf ▸ hnd.2.1)
  refine ⟨a - 1, by omega, by omega, ?_⟩
  rw [HSet.recAt_eq, HSet.slotReg_free (chainsNext_none hni) hfn]

theorem HImage.walkChain_zero (img : HImage β) (fuel : Nat) : img.walkChain fuel 0 = some [] := by
  cases fuel <;> rfl

theorem HImage.walkChain_succ (m : HImage β) (f j : Nat) :
    m.walkChain (f + 1) (j + 1) =
      m.recs[j]?.bind fun rc => (m.walkChain f rc.next).map ((j + 1, rc.val) :: ·) := by
  cases h : m.recs[j]? <;> simp [HImage.walkChain, h]

theorem HImage.walkChain_nil {m : HImage β} {fuel i : Nat} (h : m.walkChain fuel i = some []) : i = 0 := by
  cases i with
  | zero => rfl
  | succ j =>
    cases fuel with
    | zero => cases h
    | succ f => simp [HImage.walkChain_succ, Option.bind_eq_some_iff] at h

theorem HImage.walkChain_cons {m : HImage β} {fuel i : Nat} {e : Nat × β} {l : List (Nat × β)}
    (h : m.walkChain fuel i = some (e :: l)) :
    ∃ f j rc, fuel = f + 1 ∧ i = j + 1 ∧ m.recs[j]? = some rc ∧ e = (j + 1, rc.val) ∧
      m.walkChain f rc.next = some l := by
  cases fuel with
  | zero => cases i <;> cases h
  | succ f =>
    cases i with
    | zero => cases h
    | succ j =>
      simp only [HImage.walkChain_succ, Option.bind_eq_some_iff, Option.map_eq_some_iff] at h
      obtain ⟨rc, hrc, l', hw, heq⟩ := h
      cases heq
      exact ⟨f, j, rc, rfl, rfl, hrc, rfl, hw⟩

theorem HImage.walkChain_head {m : HImage β} {fuel i : Nat} {l : List (Nat × β)} (h : m.walkChain fuel i = some l) :
    i = HSet.headOf l := by
  cases l with
  | nil => exact HImage.walkChain_nil h
  | cons e l => obtain ⟨_, _, _, _, hi, _, he, _⟩ := HImage.walkChain_cons h; rw [hi, he]; rfl

/-- `pre` is the part of the chain already walked: the induction needs every suffix, callers pass `[]`. -/
theorem HSet.walkChain_image (vd : β) (s : HSet β) (h : s.LayoutOk) :
    ∀ rest pre : List (Nat × β), pre ++ rest ∈ s.chains → ∀ fuel, rest.length ≤ fuel →
      (s.image vd).walkChain fuel (HSet.headOf rest) = some rest := by
  intro rest
  induction rest with
  | nil => intro _ _ fuel _; exact HImage.walkChain_zero _ _
  | cons e rest ih =>
    intro pre hm fuel hf
    obtain ⟨j, hj, hjs, hrec⟩ := h.rec_live vd hm
    obtain ⟨f, rfl⟩ := Nat.exists_eq_add_one.2 (Nat.zero_lt_of_lt hf)
    have hih := ih (pre ++ [e]) (by simpa using hm) f (by simp only [List.length_cons] at hf; omega)
    show (s.image vd).walkChain (f + 1) e.1 = _
    rw [hj, HImage.walkChain_succ, HSet.image_recs_getElem? vd s hjs, hrec]
    simp only [Option.bind_some, hih, Option.map_some, ← hj]

theorem HSet.walkFree_image (vd : β) (s : HSet β) (h : s.LayoutOk) :
    ∀ rest pre : List Nat, s.free = pre ++ rest → ∀ fuel, rest.length ≤ fuel →
      (s.image vd).walkFree s.seq fuel (rest.head?.getD s.seq) = some rest := by
  intro rest
  induction rest with
  | nil => intro pre _ fuel _; unfold HImage.walkFree; simp
  | cons a rest ih =>
    intro pre hp fuel hf
    have hne := h.free_ne a (by simp [hp])
    obtain ⟨j, rfl, hjs, hrec⟩ := h.rec_free vd hp
    obtain ⟨f, rfl⟩ := Nat.exists_eq_add_one.2 (Nat.zero_lt_of_lt hf)
    have hih := ih (pre ++ [j + 1]) (by simp [hp]) f (by simp only [List.length_cons] at hf; omega)
    unfold HImage.walkFree
    simp [hne, HSet.image_recs_getElem? vd s hjs, hrec, hih]

theorem HSet.LayoutOk.chain_length_le {s : HSet β} (h : s.LayoutOk) {ch : List (Nat × β)} (hm : ch ∈ s.chains) :
    ch.length ≤ s.slots := by
  have h1 : s.liveSlots.length ≤ s.slots :=
    length_le_of_nodup_range _ _ (List.nodup_append.1 h.nodup).1 (fun i hi => h.range i (by simp [hi]))
  have := (List.sublist_flatten_of_mem hm).length_le
  rw [← List.flatMap_id] at this
  rw [HSet.liveSlots, List.length_map] at h1
  omega

theorem HSet.LayoutOk.walk_bucket {s : HSet β} (h : s.LayoutOk) (vd : β) {b : Nat} {ch : List (Nat × β)}
    (hch : s.chains[b]? = some ch) {fuel : Nat} (hf : s.slots ≤ fuel) :
    (s.image vd).walkChain fuel (s.recAt vd b).bucket = some ch := by
  have hm := List.mem_of_getElem? hch
  rw [HSet.recAt_bucket, List.getD_eq_getElem?_getD, hch]
  exact HSet.walkChain_image vd s h ch [] hm fuel (Nat.le_trans (h.chain_length_le hm) hf)

theorem HImage.decodeCore_image (vd : β) (s : HSet β) (h : s.LayoutOk) :
    (s.image vd).decodeCore = some s := by
  have hlen := HSet.image_recs_length vd s
  have h2 : s.free.length ≤ s.slots :=
    length_le_of_nodup_range _ _ (List.nodup_append.1 h.nodup).2.1 (fun i hi => h.range i (by simp [hi]))
  have hf := HSet.walkFree_image vd s h s.free [] (by simp) (s.slots + 1) (by omega)
  rw [← HSet.flhReg_eq] at hf
  have hm : (s.image vd).recs.mapM (fun rc => (s.image vd).walkChain s.slots rc.bucket) =
      some s.chains := by
    rw [HSet.image, List.mapM_map, mapM_eq_some_map (g := (s.chains.getD · [])), HSet.slots,
      ← take_eq_map_range_getD _ _ (Nat.le_refl _), List.take_length]
    intro j hj
    have hj' : j < s.chains.length := List.mem_range.1 hj
    exact h.walk_bucket vd (by simp [List.getD_eq_getElem?_getD, List.getElem?_eq_getElem hj']) (Nat.le_refl _)
  simp only [HImage.decodeCore, hlen, HSet.image_hdr_seq, HSet.image_hdr_flh, HSet.image_hdr_size,
    HSet.image_hdr_cap, hm, hf]

section Decode
variable [DecidableEq β]

theorem HImage.decode_image (vd : β) (s : HSet β) (h : s.LayoutOk) :
    (s.image vd).decode vd = some s := by
  simp [HImage.decode, HImage.decodeCore_image vd s h]

theorem HImage.image_of_decode (vd : β) (img : HImage β) (s : HSet β) (h : img.decode vd = some s) :
    s.image vd = img := by
  unfold HImage.decode at h
  split at h
  · split at h
    · cases h; assumption
    · cases h
  · cases h

end Decode

/-- The record `d` that the literal model reads for slot 0 and past the buffer: registers 0 and the `V::default()` (`vd`)
    that the layout writes into unused slots. -/
def HImp.dflt (vd : β) : HRec β := ⟨0, 0, vd⟩

end Stevia
