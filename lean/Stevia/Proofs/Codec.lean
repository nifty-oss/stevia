/-
  Stevia.Proofs.Codec — byte-level codecs round-trip: parsing the bytes of an image gives back the
  image, for trees (both widths, any key/value scalars), hash sets and array sets.

  Two ideas carry all of it: a record is a concatenation of blocks, and a block is found where the blocks before it
  end (`slice_block`); a buffer is a header followed by records of one size (`framed`, `guards_eq_some`).
-/
import Stevia.Proofs.Bytes
import Stevia.Model.TreeLayout
import Stevia.Model.HashSetLayout
import Stevia.Model.ArraySetLayout

namespace Stevia

open TreeFmt (slice)

theorem slice_block {bs : List Bytes} {b : Bytes} {off len : Nat} (j : Nat) (hb : bs[j]? = some b)
    (ho : off = (bs.take j).flatten.length) (hl : len = b.length) : slice bs.flatten off len = b := by
  subst ho hl
  obtain ⟨hj, rfl⟩ := List.getElem?_eq_some_iff.mp hb
  have h : bs.flatten = (bs.take j).flatten ++ (bs[j] ++ (bs.drop (j + 1)).flatten) := by
    rw [← List.flatten_cons, ← List.flatten_append, ← List.drop_eq_getElem_cons hj, List.take_append_drop]
  rw [h, slice, List.drop_left, List.take_left]

theorem length_flatten_uniform {bs : List Bytes} {n : Nat} (h : ∀ b ∈ bs, b.length = n) :
    bs.flatten.length = bs.length * n := by
  rw [List.length_flatten, List.map_eq_replicate_iff.2 h, List.sum_replicate_nat]

theorem TreeFmt.chunks_flatten {n : Nat} (hn : 0 < n) {bs : List Bytes} (h : ∀ b ∈ bs, b.length = n) :
    TreeFmt.chunks n bs.flatten = bs := by
  have hlen := length_flatten_uniform h
  rw [TreeFmt.chunks, if_neg (by omega)]
  apply List.ext_getElem
  · simp [hlen, Nat.mul_div_cancel _ hn]
  · intro j _ hj
    have ht : ∀ b ∈ bs.take j, b.length = n := fun b hb => h b (List.mem_of_mem_take hb)
    simp only [List.getElem_map, List.getElem_range, Array.toList_extract, List.extract_eq_take_drop,
      Nat.add_sub_cancel_left]
    exact slice_block j (List.getElem?_eq_getElem hj)
      (by rw [length_flatten_uniform ht, List.length_take, Nat.min_eq_left (Nat.le_of_lt hj)])
      (h _ (List.getElem_mem hj)).symm

/-- The guards the three readers share; `k` is what a reader does with a buffer that passed. -/
theorem guards_eq_some {α : Type} {len H n : Nat} {k : Option α} {x : α} :
    (if len < H then none else if n = 0 then none else if (len - H) % n ≠ 0 then none else k) = some x ↔
      H ≤ len ∧ n ≠ 0 ∧ (len - H) % n = 0 ∧ k = some x := by
  simp only [Option.ite_none_left_eq_some, Nat.not_lt, Decidable.not_not]

/-- A header, then records of one size: what the readers ask of the bytes of such a buffer, in the order in which they
    ask it. -/
theorem framed {ρ : Type} {hdr bs : Bytes} {H n : Nat} {enc : ρ → Bytes} {dec : Bytes → ρ} {rs : List ρ}
    (hbs : bs = hdr ++ rs.flatMap enc) (hH : hdr.length = H) (hn : 0 < n)
    (hl : ∀ r ∈ rs, (enc r).length = n) (rt : ∀ r ∈ rs, dec (enc r) = r) :
    H ≤ bs.length ∧ n ≠ 0 ∧ (bs.length - H) % n = 0 ∧ bs.take H = hdr ∧
      (TreeFmt.chunks n (bs.drop H)).map dec = rs := by
  have hu : ∀ b ∈ rs.map enc, b.length = n := by
    intro b hb
    obtain ⟨r, hr, rfl⟩ := List.mem_map.1 hb
    exact hl r hr
  have hlen : bs.length = H + rs.length * n := by
    rw [hbs, List.length_append, hH, List.flatMap_def, length_flatten_uniform hu, List.length_map]
  refine ⟨by omega, by omega, by simp [hlen], by rw [hbs, List.take_left' hH], ?_⟩
  rw [hbs, List.drop_left' hH, List.flatMap_def, TreeFmt.chunks_flatten hn hu, List.map_map]
  exact (List.map_congr_left rt).trans (List.map_id _)

/-- Sanity of a format descriptor: non-empty index, key and value scalars with positive alignment (the proofs use
    only that key and value are not empty). -/
structure TreeFmt.Ok (f : TreeFmt) : Prop where
  iw_pos : 0 < f.iw
  key_pos : 0 < f.key.size
  val_pos : 0 < f.val.size
  kal_pos : 0 < f.key.align
  val_al_pos : 0 < f.val.align

/-- The key fits the key scalar of the format. -/
def TreeFmt.keyOk (f : TreeFmt) (k : Int) : Prop :=
  if f.key.signed then -(2 ^ (8 * f.key.size - 1) : Int) ≤ k ∧ k < (2 ^ (8 * f.key.size - 1) : Int)
  else 0 ≤ k ∧ k < (256 ^ f.key.size : Int)

def Rec.Bounded (f : TreeFmt) (r : Rec Int Nat) : Prop :=
  r.left < 256 ^ f.iw ∧ r.right < 256 ^ f.iw ∧ r.height < 256 ^ f.iw ∧ r.pad < 256 ^ f.iw ∧
  r.val < 256 ^ f.val.size ∧ f.keyOk r.key

def Hdr.Bounded (f : TreeFmt) (h : Hdr) : Prop :=
  h.root < 256 ^ f.iw ∧ h.size < 256 ^ f.iw ∧ h.cap < 256 ^ f.iw ∧ h.flh < 256 ^ f.iw ∧
  h.seq < 256 ^ f.iw ∧ h.pad < 256 ^ f.hdrPad

def TreeImage.Bounded (f : TreeFmt) (img : TreeImage Int Nat) : Prop :=
  img.hdr.Bounded f ∧ ∀ r ∈ img.recs, r.Bounded f

namespace TreeFmt
variable (f : TreeFmt)

theorem keyOff_ge : 4 * f.iw ≤ f.keyOff := le_alignUp _ _
theorem valOff_ge : f.keyOff + f.key.size ≤ f.valOff := le_alignUp _ _
theorem recSize_ge : f.valOff + f.val.size ≤ f.recSize := le_alignUp _ _

@[simp] theorem encKey_length (k : Int) : (f.encKey k).length = f.key.size := by
  unfold encKey leEncInt
  split <;> exact leEnc_length _ _

theorem encRec_blocks (r : Rec Int Nat) : f.encRec r =
    [leEnc f.iw r.left, leEnc f.iw r.right, leEnc f.iw r.height, leEnc f.iw r.pad,
     zeros (f.keyOff - 4 * f.iw), f.encKey r.key, zeros (f.valOff - (f.keyOff + f.key.size)),
     leEnc f.val.size r.val, zeros (f.recSize - (f.valOff + f.val.size))].flatten := by
  simp [encRec]

theorem encRec_length (r : Rec Int Nat) : (f.encRec r).length = f.recSize := by
  have h1 := f.keyOff_ge
  have h2 := f.valOff_ge
  have h3 := f.recSize_ge
  simp only [encRec, List.length_append, leEnc_length, zeros_length, encKey_length]
  omega

theorem recSize_pos (hf : f.Ok) : 0 < f.recSize := by
  have h3 := f.recSize_ge
  have := hf.val_pos
  omega

theorem decKey_encKey (hf : f.Ok) (k : Int) (hk : f.keyOk k) : f.decKey (f.encKey k) = k := by
  unfold keyOk at hk
  unfold decKey encKey
  split
  · rename_i hs
    rw [if_pos hs] at hk
    exact leDecInt_leEncInt _ hf.key_pos _ hk.1 hk.2
  · rename_i hs
    rw [if_neg hs] at hk
    have hc : ((256 ^ f.key.size : Nat) : Int) = (256 : Int) ^ f.key.size := Int.natCast_pow 256 _
    rw [leDec_leEnc_lt (by omega), Int.toNat_of_nonneg hk.1]

theorem decRec_encRec (hf : f.Ok) (r : Rec Int Nat) (hr : r.Bounded f) :
    f.decRec (f.encRec r) = r := by
  have h1 := f.keyOff_ge
  have h2 := f.valOff_ge
  simp only [decRec, encRec_blocks]
  rw [slice_block (off := 0 * f.iw) 0 rfl (by simp) (by simp),
    slice_block (off := 1 * f.iw) 1 rfl (by simp) (by simp),
    slice_block (off := 2 * f.iw) 2 rfl (by simp +arith) (by simp),
    slice_block (off := 3 * f.iw) 3 rfl (by simp +arith) (by simp),
    slice_block (off := f.keyOff) 5 rfl (by simp; omega) (by simp),
    slice_block (off := f.valOff) 7 rfl (by simp; omega) (by simp)]
  obtain ⟨b1, b2, b3, b4, b5, b6⟩ := hr
  simp only [leDec_leEnc_lt, b1, b2, b3, b4, b5, f.decKey_encKey hf r.key b6]

theorem encHdr_blocks (h : Hdr) : f.encHdr h =
    [leEnc f.iw h.root, leEnc f.iw h.size, leEnc f.iw h.cap, leEnc f.iw h.flh, leEnc f.iw h.seq,
     leEnc f.hdrPad h.pad].flatten := by
  simp [encHdr]

theorem encHdr_length (h : Hdr) : (f.encHdr h).length = f.hdrSize := by
  simp only [encHdr, hdrSize, List.length_append, leEnc_length]
  omega

theorem decHdr_encHdr (h : Hdr) (hh : h.Bounded f) : f.decHdr (f.encHdr h) = h := by
  simp only [decHdr, encHdr_blocks]
  rw [slice_block (off := 0 * f.iw) 0 rfl (by simp) (by simp),
    slice_block (off := 1 * f.iw) 1 rfl (by simp) (by simp),
    slice_block (off := 2 * f.iw) 2 rfl (by simp +arith) (by simp),
    slice_block (off := 3 * f.iw) 3 rfl (by simp +arith) (by simp),
    slice_block (off := 4 * f.iw) 4 rfl (by simp +arith) (by simp),
    slice_block (off := 5 * f.iw) 5 rfl (by simp +arith) (by simp)]
  obtain ⟨b1, b2, b3, b4, b5, b6⟩ := hh
  simp only [leDec_leEnc_lt, b1, b2, b3, b4, b5, b6]

theorem ofBytes_toBytes (hf : f.Ok) (img : TreeImage Int Nat) (hb : img.Bounded f) :
    f.ofBytes (f.toBytes img) = some img := by
  obtain ⟨h1, h2, h3, h4, h5⟩ := framed (dec := f.decRec) (bs := f.toBytes img) rfl (f.encHdr_length img.hdr)
    (f.recSize_pos hf) (fun r _ => f.encRec_length r) (fun r hr => f.decRec_encRec hf r (hb.2 r hr))
  refine guards_eq_some.2 ⟨h1, h2, h3, ?_⟩
  simp only [h4, h5, f.decHdr_encHdr img.hdr hb.1, if_true]

theorem toBytes_of_ofBytes (bs : Bytes) (img : TreeImage Int Nat)
    (h : f.ofBytes bs = some img) : f.toBytes img = bs := by
  obtain ⟨he, rfl⟩ := Option.ite_some_none_eq_some.1 (guards_eq_some.1 h).2.2.2
  exact he

end TreeFmt

def HFmt.Ok (f : HFmt) : Prop := 0 < f.val.size ∧ 0 < f.val.align

def HRec.Bounded (f : HFmt) (r : HRec Nat) : Prop :=
  r.bucket < 256 ^ 4 ∧ r.next < 256 ^ 4 ∧ r.val < 256 ^ f.val.size

def HHdr.Bounded (h : HHdr) : Prop :=
  h.size < 256 ^ 4 ∧ h.cap < 256 ^ 4 ∧ h.flh < 256 ^ 4 ∧ h.seq < 256 ^ 4

def HImage.Bounded (f : HFmt) (img : HImage Nat) : Prop :=
  img.hdr.Bounded ∧ ∀ r ∈ img.recs, r.Bounded f

namespace HFmt
variable (f : HFmt)

theorem valOff_ge : 8 ≤ f.valOff := le_alignUp _ _
theorem recSize_ge : f.valOff + f.val.size ≤ f.recSize := le_alignUp _ _

theorem encRec_blocks (r : HRec Nat) : f.encRec r =
    [leEnc 4 r.bucket, leEnc 4 r.next, zeros (f.valOff - 8), leEnc f.val.size r.val,
     zeros (f.recSize - (f.valOff + f.val.size))].flatten := by
  simp [encRec]

theorem encRec_length (r : HRec Nat) : (f.encRec r).length = f.recSize := by
  have h1 := f.valOff_ge
  have h2 := f.recSize_ge
  simp only [encRec, List.length_append, leEnc_length, zeros_length]
  omega

theorem encHdr_length (h : HHdr) : (f.encHdr h).length = f.hdrSize := by
  simp only [encHdr, hdrSize, List.length_append, leEnc_length]

theorem decRec_encRec (r : HRec Nat) (hr : r.Bounded f) : f.decRec (f.encRec r) = r := by
  have h1 := f.valOff_ge
  simp only [decRec, encRec_blocks]
  rw [slice_block (off := 0) 0 rfl (by simp) (by simp),
    slice_block (off := 4) 1 rfl (by simp) (by simp),
    slice_block (off := f.valOff) 3 rfl (by simp; omega) (by simp)]
  obtain ⟨b1, b2, b3⟩ := hr
  simp only [leDec_leEnc_lt, b1, b2, b3]

theorem encHdr_blocks (h : HHdr) :
    f.encHdr h = [leEnc 4 h.size, leEnc 4 h.cap, leEnc 4 h.flh, leEnc 4 h.seq].flatten := by
  simp [encHdr]

theorem decHdr_encHdr (h : HHdr) (hh : h.Bounded) : f.decHdr (f.encHdr h) = h := by
  simp only [decHdr, encHdr_blocks]
  rw [slice_block (off := 0 * 4) 0 rfl (by simp) (by simp),
    slice_block (off := 1 * 4) 1 rfl (by simp) (by simp),
    slice_block (off := 2 * 4) 2 rfl (by simp) (by simp),
    slice_block (off := 3 * 4) 3 rfl (by simp) (by simp)]
  obtain ⟨b1, b2, b3, b4⟩ := hh
  simp only [leDec_leEnc_lt, b1, b2, b3, b4]

theorem ofBytes_toBytes (hf : f.Ok) (img : HImage Nat) (hb : img.Bounded f) :
    f.ofBytes (f.toBytes img) = some img := by
  have hpos : 0 < f.recSize := by
    have := f.recSize_ge
    have := hf.1
    omega
  obtain ⟨h1, h2, h3, h4, h5⟩ := framed (dec := f.decRec) (bs := f.toBytes img) rfl (f.encHdr_length img.hdr) hpos
    (fun r _ => f.encRec_length r) (fun r hr => f.decRec_encRec r (hb.2 r hr))
  refine guards_eq_some.2 ⟨h1, h2, h3, ?_⟩
  simp only [h4, h5, f.decHdr_encHdr img.hdr hb.1, if_true]

end HFmt

theorem HFmt.toBytes_of_ofBytes (f : HFmt) (bs : Bytes) (img : HImage Nat)
    (h : f.ofBytes bs = some img) : f.toBytes img = bs := by
  obtain ⟨he, rfl⟩ := Option.ite_some_none_eq_some.1 (guards_eq_some.1 h).2.2.2
  exact he

theorem AFmt.ofBytes_toBytes (f : AFmt) (hv : 0 < f.vsz) (s : ASet Nat)
    (hl : s.len < 256 ^ f.pw) (hvals : ∀ v ∈ s.vals, v < 256 ^ f.vsz) :
    f.ofBytes (f.toBytes s) = some s := by
  obtain ⟨h1, h2, h3, h4, h5⟩ := framed (dec := leDec) (bs := f.toBytes s) rfl (leEnc_length f.pw s.len) hv
    (fun v _ => leEnc_length f.vsz v) (fun v hv => leDec_leEnc_lt (hvals v hv))
  refine guards_eq_some.2 ⟨h1, h2, h3, ?_⟩
  simp only [h4, h5, leDec_leEnc_lt hl]

end Stevia
