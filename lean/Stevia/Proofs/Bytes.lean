/-
  Stevia.Proofs.Bytes — lemmas of `Model/Bytes.lean` (little-endian words round-trip, unsigned and two's complement;
  `alignUp` only rounds up) and the few facts about the parts of a `ByteArray` that the string, pod and view proofs share.
-/
import Stevia.Model.Bytes

namespace Stevia

@[simp] theorem leEnc_length (w x : Nat) : (leEnc w x).length = w := by
  induction w generalizing x with
  | zero => rfl
  | succ n ih => simp [leEnc, ih]

@[simp] theorem zeros_length (n : Nat) : (zeros n).length = n := List.length_replicate

theorem leDec_leEnc (w x : Nat) : leDec (leEnc w x) = x % 256 ^ w := by
  induction w generalizing x with
  | zero => simp [leEnc, leDec, Nat.mod_one]
  | succ n ih =>
    simp only [leEnc, leDec, ih]
    have : (UInt8.ofNat (x % 256)).toNat = x % 256 := by
      simp [UInt8.toNat_ofNat']
    rw [this, Nat.pow_succ, Nat.mul_comm (256^n) 256, Nat.mod_mul]

theorem leDec_leEnc_lt {w x : Nat} (h : x < 256 ^ w) : leDec (leEnc w x) = x := by
  rw [leDec_leEnc, Nat.mod_eq_of_lt h]

/-- A residue lies in the lower half of an even modulus, seen as a natural number and as an integer. -/
theorem half_iff {r : Int} {H M : Nat} (hM : M = H * 2) (h0 : 0 ≤ r) :
    r.toNat < H ↔ r < ((M : Int) + 1) / 2 := by
  have : ((M : Int) + 1) / 2 = H := by omega
  rw [this, Int.toNat_lt h0]

theorem leDecInt_leEncInt_bmod (n : Nat) (hn : 0 < n) (x : Int) :
    leDecInt (leEncInt n x) = x.bmod (2 ^ (8 * n)) := by
  have hM : 2 ^ (8 * n) = 2 ^ (8 * n - 1) * 2 := by rw [← Nat.pow_succ]; congr 1; omega
  have hpos : (0 : Int) < (2 ^ (8 * n) : Nat) := Int.natCast_pos.2 (Nat.pow_pos (by decide))
  have h256 : 256 ^ n = 2 ^ (8 * n) := by rw [Nat.pow_mul]
  simp only [leDecInt, leEncInt, leEnc_length, Int.bmod]
  generalize 2 ^ (8 * n - 1) = H at hM
  generalize 2 ^ (8 * n) = M at hM hpos h256
  have h0 : 0 ≤ x % (M : Int) := Int.emod_nonneg _ (Int.ne_of_gt hpos)
  have hlt : x % (M : Int) < M := Int.emod_lt_of_pos _ hpos
  rw [leDec_leEnc_lt (by rw [h256]; exact Int.ofNat_lt.1 (by rwa [Int.toNat_of_nonneg h0])),
    if_neg (Nat.ne_of_gt hn), Int.toNat_of_nonneg h0]
  simp only [half_iff hM h0]

theorem leDecInt_leEncInt (n : Nat) (hn : 0 < n) (x : Int)
    (h1 : -(2 ^ (8 * n - 1) : Int) ≤ x) (h2 : x < (2 ^ (8 * n - 1) : Int)) :
    leDecInt (leEncInt n x) = x := by
  have hM : 2 ^ (8 * n) = 2 ^ (8 * n - 1) * 2 := by rw [← Nat.pow_succ]; congr 1; omega
  rw [leDecInt_leEncInt_bmod n hn]
  apply Int.bmod_eq_of_le_mul_two
  · rw [hM]; simp; omega
  · rw [hM]; simp; omega

theorem le_alignUp (x a : Nat) : x ≤ alignUp x a := by
  unfold alignUp
  split
  · exact Nat.le_refl _
  · rename_i h
    have := @Nat.lt_div_mul_add (x + a - 1) a (Nat.pos_of_ne_zero h)
    omega

/-- Core's `ByteArray.size_extract`, with its arguments explicit. -/
theorem ByteArray.size_extract' (b : ByteArray) (i j : Nat) : (b.extract i j).size = min j b.size - i := by
  simp [ByteArray.size_extract]

theorem size_extract_le {b : ByteArray} {i j : Nat} (h : j ≤ b.size) : (b.extract i j).size = j - i := by
  rw [ByteArray.size_extract', Nat.min_eq_left h]

theorem size_append_tail {a b : ByteArray} {k : Nat} (ha : a.size = k) (hk : k ≤ b.size) :
    (a ++ b.extract k b.size).size = b.size := by
  rw [ByteArray.size_append, ha, size_extract_le (Nat.le_refl _), Nat.add_sub_cancel' hk]

theorem extract_tail_prefix (b : ByteArray) (w l : Nat) (h : w + l ≤ b.size) :
    (b.extract w b.size).extract 0 l = b.extract w (w + l) := by
  rw [ByteArray.extract_extract, Nat.add_zero, Nat.min_eq_left h]

theorem extract_append_from {a b : ByteArray} {k : Nat} (j : Nat) (h : k = a.size) :
    (a ++ b).extract k (k + j) = b.extract 0 j :=
  ByteArray.extract_append_size_add' (i := 0) h

theorem extract_mid {a b c : ByteArray} {i j : Nat} (hi : i = a.size) (hj : j = i + b.size) :
    (a ++ b ++ c).extract i j = b := by
  rw [hj, ByteArray.append_assoc, extract_append_from _ hi, ByteArray.extract_append_eq_left rfl]

end Stevia
