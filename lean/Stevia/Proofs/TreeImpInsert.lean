/-
  Stevia.Proofs.TreeImpInsert — the descent of `insert` records the zipper of the search path, `add`
  is `Tree.alloc` on the layout, and walking the zipper outwards with `rebal` is `T.ins`.
-/
import Stevia.Proofs.TreeImpLoop

namespace Stevia
variable {α β : Type}

section Descend
variable [LinOrd α]

theorem T.up_descend (idx : Nat) (key : α) (val : β) (t : T α β) (ctx : List (Frame α β))
    (hf : t.find key = none) :
    up (t.descend key ctx) (.node idx .nil key val 0 .nil) = up ctx (t.ins idx key val) := by
  induction t generalizing ctx with
  | nil => rfl
  | node i l k v h r ihl ihr =>
    simp only [T.find] at hf
    simp only [T.descend, T.ins]
    split at hf
    · rename_i h1; rw [if_pos h1, if_pos h1, ihl _ hf]; rfl
    · rename_i h1; rw [if_neg h1, if_neg h1]
      split at hf
      · rename_i h2; rw [if_pos h2, if_pos h2, ihr _ hf]; rfl
      · cases hf

/-- `t` may be empty: the loop's test `next == SENTINEL` before it moves on is then the base case, and the answer is
    the innermost frame of `ctx`. -/
theorem insertDescend_rep (d : Rec α β) (hdr : Hdr) {n : Nat} {f : Nat → Rec α β} (key : α) :
    ∀ (t : T α β) (fuel : Nat) (ctx : List (Frame α β)), Own n f t → t.height ≤ fuel →
      (if t.slot = 0 then true else Imp.insertT d (mkImg hdr n f) key fuel t.slot) = true ∧
      (if t.slot = 0 then ctx.head?.map fun fr => (fr.i, fr.dir, (pathUp ctx).reverse)
        else Imp.insertDescend d (mkImg hdr n f) key fuel t.slot (pathOf ctx t.slot).reverse) =
        if (t.find key).isSome then none
        else (t.descend key ctx).head?.map fun fr => (fr.i, fr.dir, (pathUp (t.descend key ctx)).reverse) := by
  intro t
  induction t with
  | nil => intro _ _ _ _; exact ⟨rfl, rfl⟩
  | node i l k v h r ihl ihr =>
    intro fuel ctx ho hf
    simp only [T.height] at hf
    obtain ⟨fuel, rfl⟩ := Nat.exists_eq_add_one.2 (Nat.zero_lt_of_lt hf)
    have hf' := Nat.le_of_succ_le_succ hf
    simp only [T.slot_node, if_neg ho.slot_ne_zero, Imp.insertT, Imp.insertDescend, ho.rd d hdr, T.rc, T.find,
      T.descend]
    by_cases h1 : key < k
    · simp only [if_pos h1]
      have := ihl fuel (⟨i, k, v, h, false, r⟩ :: ctx) ho.left (Nat.le_trans (Nat.le_max_left _ _) hf')
      rwa [pathOf, List.reverse_cons] at this
    · simp only [if_neg h1]
      by_cases h2 : k < key
      · simp only [if_pos h2]
        have := ihr fuel (⟨i, k, v, h, true, l⟩ :: ctx) ho.right (Nat.le_trans (Nat.le_max_right _ _) hf')
        rwa [pathOf, List.reverse_cons] at this
      · simp [if_neg h2]

/-- `insertDescend_rep` on the layout of a well-formed state, as `search_image`. -/
theorem insertDescend_image (c : TreeCfg) (kd : α) (vd : β) (s : Tree α β) (h : s.Inv c) (k : α)
    (hroot : s.root ≠ .nil) :
    Imp.insertT (Imp.dflt kd vd) (s.image c kd vd) k (s.slots + 1) s.root.slot = true ∧
    Imp.insertDescend (Imp.dflt kd vd) (s.image c kd vd) k (s.slots + 1) s.root.slot [(none, none, s.root.slot)] =
      if (s.root.find k).isSome then none
      else (s.root.descend k []).head?.map fun fr => (fr.i, fr.dir, (pathUp (s.root.descend k [])).reverse) := by
  have ho := h.own kd vd
  have hd := insertDescend_rep (Imp.dflt kd vd) (s.hdr c) k s.root _ [] ho (Nat.le_succ_of_le h.height_le)
  rwa [if_neg (mt ho.slot_eq_zero.1 hroot), if_neg (mt ho.slot_eq_zero.1 hroot)] at hd

end Descend

section Add
variable [LinOrd α] {c : TreeCfg} {s : Tree α β} {i sq : Nat} {fl : List Nat}

/-- The modular `dec` and `inc` of the wrapping file are the plain ones as long as `1 ≤ seq ≤ W`. -/
theorem Imp.wrapDec_eq (wrap : Bool) {W seq : Nat} (h1 : 1 ≤ seq) (h2 : seq ≤ W) :
    (if wrap = true then (seq + W) % (W + 1) else seq - 1) = seq - 1 := by
  split
  · rw [show seq + W = (seq - 1) + (W + 1) by omega, Nat.add_mod_right, Nat.mod_eq_of_lt (by omega)]
  · rfl

theorem Imp.wrapInc_eq (wrap : Bool) {W seq : Nat} (h : wrap = true ∨ seq < W) :
    (if wrap = true then (seq + 1) % (W + 1) else seq + 1) = (seq + 1) % (W + 1) := by
  split
  · rfl
  · rename_i hw
    rw [Nat.mod_eq_of_lt (by have := h.resolve_left hw; omega)]

theorem Tree.Inv.alloc_valid (h : s.Inv c) (hnf : s.size < s.cap) (hal : Slots.Alloc s.free s.seq i fl sq) :
    Valid s.slots (i :: s.root.slots) :=
  have ⟨hi1, hi2, hni, _⟩ := h.alloc_ok hnf hal
  valid_cons.2 ⟨⟨hi1, hi2⟩, hni, h.rootValid⟩

theorem Imp.add_eq (kd : α) (vd : β) (h : s.Inv c) (hnf : s.size < s.cap) (hal : Slots.Alloc s.free s.seq i fl sq)
    (d : Rec α β) (key : α) (val : β) :
    Imp.add c d (s.image c kd vd) key val =
      some (mkImg (({ s with free := fl, seq := sq, size := s.size + 1 } : Tree α β).hdr c) s.slots
        (upd (s.recAt c kd vd) i ⟨0, 0, 0, 0, key, val⟩), i) := by
  obtain ⟨hi1, hi2, hni, -, -⟩ := h.alloc_ok hnf hal
  rw [Tree.image_eq_mkImg]
  unfold Imp.add
  rcases hal with ⟨hfree, rfl⟩ | ⟨hfree, rfl, rfl, rfl⟩
  · have hflh : s.flhReg c = i := by rw [Tree.flhReg_eq, hfree]; rfl
    have hne : i ≠ s.seqReg c := h.layoutOk.free_ne i (by simp [hfree])
    have hrec : s.recAt c kd vd i = ⟨0, 0, fl.head?.getD (s.seqReg c), 0, kd, vd⟩ :=
      Tree.recAt_free c kd vd s hni (by rw [hfree, freeNext_head])
    simp only [mkImg_hdr, Tree.hdr, hflh, if_neg hne]
    rw [rd_mkImg _ _ _ _ hi1 hi2, hrec]
    simp only [mk_recs_mkImg, wr_mkImg, hrec, mkImg_hdr]
    rw [Tree.flhReg_eq]
    rfl
  · have hseq := h.seq_eq
    rw [hfree, List.length_nil] at hseq
    have hseqW : s.seq ≤ c.W := Nat.le_trans hi2 h.slots_le
    have hsr : s.seqReg c = s.seq := Tree.seqReg_of_le c s hseqW
    have hflh : s.flhReg c = s.seq := by rw [Tree.flhReg_eq, hfree, hsr]; rfl
    have hrec : s.recAt c kd vd s.seq = ⟨0, 0, 0, 0, kd, vd⟩ :=
      Tree.recAt_unused c kd vd s hni (by simp [hfree])
    simp only [mkImg_hdr, Tree.hdr, hflh, hsr, if_true]
    rw [Imp.wrapDec_eq c.wrap hi1 hseqW, if_neg (by omega),
      Imp.wrapInc_eq c.wrap (h.nowrap.imp_right (Nat.lt_of_le_of_lt hi2))]
    simp only [mk_recs_mkImg, wr_mkImg, hrec, mkImg_hdr]
    rfl

/-- Closing step of `insert`.  The caller shows that `f` represents the new tree `t'` (`hr`), that `t'` is made of the old
    slots and the allocated one (`hp`), and that `f` is the old layout off those slots (`hag`). -/
theorem finish_insert (kd : α) (vd : β) (h : s.Inv c) (hnf : s.size < s.cap) (hal : Slots.Alloc s.free s.seq i fl sq)
    {f : Nat → Rec α β} {t' : T α β} (hp : t'.slots.Perm (i :: s.root.slots)) (hr : Rep f t')
    (hag : Agree (i :: s.root.slots) f (s.recAt c kd vd)) :
    mkImg { ({ s with free := fl, seq := sq, size := s.size + 1 } : Tree α β).hdr c with root := t'.slot } s.slots f =
      ({ s with root := t', free := fl, seq := sq, size := s.size + 1 } : Tree α β).image c kd vd := by
  have hv := (h.alloc_valid hnf hal).perm hp
  refine mkImg_eq_image c kd vd { s with root := t', free := fl, seq := sq, size := s.size + 1 } f hv.nodup hr
    fun j hj => ?_
  have hj' : j ∉ i :: s.root.slots := fun hm => hj (hp.mem_iff.2 hm)
  rw [hag j hj']
  refine (Tree.recAt_congr_free c kd vd (fun hm => hj' (List.mem_cons_of_mem _ hm)) hj ?_).symm
  exact hal.freeNext_ne (fun e => by unfold Tree.seqReg; rw [e]) (fun e => hj' (by simp [e]))

end Add

end Stevia
