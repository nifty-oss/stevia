/-
  Stevia.Proofs.BytesRT — the whole chain at byte level: for every reachable state, parsing the
  bytes of its layout and decoding gives back the state.
-/
import Stevia.Proofs.Codec
import Stevia.Proofs.TreeState
import Stevia.Proofs.HashSetState
import Stevia.Proofs.ArraySetState
import Stevia.Model.ArraySetLayout

namespace Stevia

/-- The index width of the byte format is the one of the configuration. -/
def TreeFmt.Matches (f : TreeFmt) (c : TreeCfg) : Prop := c.W + 1 = 256 ^ f.iw

def TreeFmt.kvOk (f : TreeFmt) (t : T Int Nat) : Prop :=
  ∀ e ∈ t.toList, f.keyOk e.2.1 ∧ e.2.2 < 256 ^ f.val.size

theorem TreeFmt.keyOk_zero (f : TreeFmt) : f.keyOk 0 := by
  unfold TreeFmt.keyOk
  have h1 : (0 : Int) < 2 ^ (8 * f.key.size - 1) := Int.pow_pos (by decide)
  have h2 : (0 : Int) < 256 ^ f.key.size := Int.pow_pos (by decide)
  split
  · omega
  · omega

theorem Tree.image_bounded (c : TreeCfg) (f : TreeFmt) (hm : f.Matches c) (s : Tree Int Nat)
    (h : s.Inv c) (hkv : f.kvOk s.root) : (s.image c 0 0).Bounded f := by
  -- the kinds of number a layout stores, each below `256 ^ iw = W + 1`: 0; a slot, at most the record count; capacity
  -- and size, `size ≤ cap ≤ slots ≤ W`; the cursor register, a residue; a register of the free-list thread (its head,
  -- a `freeNext`), a released slot or the cursor register; a height, at most the size
  have hpos : 0 < 256 ^ f.iw := Nat.pow_pos (by decide)
  have hW : ∀ {n}, n ≤ c.W → n < 256 ^ f.iw := fun hn => hm ▸ Nat.lt_succ_of_le hn
  have hslot : ∀ i ∈ s.root.slots ++ s.free, i < 256 ^ f.iw := fun i hi =>
    hW (Nat.le_trans (h.layoutOk.range i hi).2 h.slots_le)
  have hlive : ∀ i ∈ s.root.slots, i < 256 ^ f.iw := fun i hi => hslot i (List.mem_append_left _ hi)
  have hcapB : s.cap < 256 ^ f.iw := hW (Nat.le_trans h.cap_le h.slots_le)
  have hsizeB : s.size < 256 ^ f.iw := Nat.lt_of_le_of_lt h.size_le_cap hcapB
  have hseqReg : s.seqReg c < 256 ^ f.iw := hm ▸ Nat.mod_lt _ (Nat.succ_pos _)
  have hthread : ∀ {x}, x ∈ s.free ∨ x = s.seqReg c → x < 256 ^ f.iw := fun hx =>
    hx.elim (fun hx => hslot _ (List.mem_append_right _ hx)) (· ▸ hseqReg)
  have hhtB : s.root.height < 256 ^ f.iw := by
    refine Nat.lt_of_le_of_lt ?_ hsizeB
    rw [h.size_eq, ← T.length_slots]
    exact T.height_le_length_slots _
  have hk0 := f.keyOk_zero
  have hv0 : 0 < 256 ^ f.val.size := Nat.pow_pos (by decide)
  refine ⟨⟨(T.IsSub.refl s.root).slot_lt hpos hlive, hsizeB, hcapB, ?_, hseqReg, Nat.pow_pos (by decide)⟩, ?_⟩
  · show s.flhReg c < _
    rw [Tree.flhReg_eq]
    exact hthread (head?_getD_mem _ _)
  · intro rc hrc
    simp only [Tree.image, List.mem_map, List.mem_range] at hrc
    obtain ⟨j, _, rfl⟩ := hrc
    rcases Tree.recAt_trichotomy c 0 0 s h.layoutOk (j + 1) with
      ⟨_, _, l, k, v, hh, r, hsub, hrec⟩ | ⟨_, _, nxt, hfn, hrec⟩ | ⟨_, _, hrec⟩ <;> rw [hrec]
    · -- a live record: its node is a subtree of the root
      have hs := T.isSub_of_sub hsub
      have he := hkv _ (hs.toList_mem (e := (j + 1, k, v)) (by simp [T.toList]))
      refine ⟨?_, ?_, ?_, hpos, he.2, he.1⟩
      · exact (T.IsSub.trans (.left (.refl _)) hs).slot_lt hpos hlive
      · exact (T.IsSub.trans (.right (.refl _)) hs).slot_lt hpos hlive
      · -- `hh + 1` is the height of the node (the registers of a balanced tree are exact), at most the root's
        have hht : T.ht (.node (j + 1) l k v hh r) ≤ s.root.height :=
          T.ht_eq_height (hs.bal h.bal) ▸ hs.height_le
        exact Nat.lt_trans hht hhtB
    · exact ⟨hpos, hpos, hthread (freeNext_mem hfn), hpos, hv0, hk0⟩
    · exact ⟨hpos, hpos, hpos, hpos, hv0, hk0⟩

/-- Bytes → image → state recovers every reachable state (both index widths, any key/value scalars). -/
theorem Tree.bytes_roundtrip (c : TreeCfg) (f : TreeFmt) (hm : f.Matches c) (hf : f.Ok) (s : Tree Int Nat)
    (h : Tree.Reach c s) (hkv : f.kvOk s.root) :
    (f.ofBytes (f.toBytes (s.image c 0 0))).bind (fun img => img.decode c 0 0) = some s := by
  have hi := Tree.reach_inv h
  rw [TreeFmt.ofBytes_toBytes f hf _ (Tree.image_bounded c f hm s hi hkv)]
  exact TreeImage.decode_image c 0 0 s hi.layoutOk

theorem TreeFmt.u8_matches (k v : Scalar) : (TreeFmt.u8 k v).Matches cfgU8 := by
  simp [TreeFmt.Matches, TreeFmt.u8, cfgU8]

theorem TreeFmt.u32_matches (k v : Scalar) : (TreeFmt.u32 k v).Matches cfgU32 := by
  simp [TreeFmt.Matches, TreeFmt.u32, cfgU32]

def HFmt.valsOk (f : HFmt) (s : HSet Nat) : Prop := ∀ v ∈ s.members, v < 256 ^ f.val.size

theorem HSet.image_bounded (hash : Nat → Nat) (f : HFmt) (s : HSet Nat) (h : s.Inv hash)
    (hv : f.valsOk s) : (s.image 0).Bounded f := by
  have h256 : 256 ^ 4 = 4294967296 := by decide
  rw [HImage.Bounded, HHdr.Bounded, h256]
  -- the kinds of number a layout stores, each below `2 ^ 32`: capacity and size, `size ≤ cap ≤ slots < u32::MAX`; the
  -- cursor, at most one past the capacity; a slot, below the cursor; a register of the free-list thread (its head, a
  -- `freeNext`), a released slot or the cursor; 0
  have hcapB : s.cap < 4294967295 := Nat.lt_of_le_of_lt h.cap_le h.slots_lt
  have hseqB : s.seq < 4294967296 := Nat.lt_of_le_of_lt h.seq_le (Nat.succ_lt_succ hcapB)
  have hslot : ∀ i ∈ s.liveSlots ++ s.free, i < 4294967296 := fun i hi =>
    Nat.lt_trans (h.range i hi).2 hseqB
  have hlive : ∀ i ∈ s.liveSlots, i < 4294967296 := fun i hi => hslot i (List.mem_append_left _ hi)
  have hthread : ∀ {x}, x ∈ s.free ∨ x = s.seq → x < 4294967296 := fun hx =>
    hx.elim (fun hx => hslot _ (List.mem_append_right _ hx)) (· ▸ hseqB)
  have h0 : 0 < 4294967296 := by decide
  have hv0 : 0 < 256 ^ f.val.size := Nat.pow_pos (by decide)
  refine ⟨⟨Nat.lt_of_le_of_lt h.size_le_cap (Nat.lt_succ_of_lt hcapB), Nat.lt_succ_of_lt hcapB, ?_, hseqB⟩, ?_⟩
  · show s.flhReg < _
    rw [HSet.flhReg_eq]
    exact hthread (head?_getD_mem _ _)
  · intro rc hrc
    obtain ⟨j, hj, rfl⟩ := HSet.mem_image_recs hrc
    have hb : HSet.headOf (s.chains.getD j []) < 4294967296 := by
      have hj' : j < s.chains.length := hj
      rw [List.getD_eq_getElem?_getD, List.getElem?_eq_getElem hj', Option.getD_some]
      cases hc : s.chains[j] with
      | nil => simp [HSet.headOf]
      | cons e rest => exact hlive e.1 (HSet.mem_liveSlots (hc ▸ List.getElem_mem hj') (by simp))
    rw [HSet.recAt_eq]
    rcases HSet.slotReg_cases 0 s (j + 1) with ⟨⟨nxt, v⟩, heq, hr⟩ | ⟨nxt, heq, hr⟩ | hr <;> rw [hr]
    · obtain ⟨h1, h2⟩ := chainsNext_mem heq
      exact ⟨hb, h1.elim (fun e => e ▸ h0) (hlive nxt), hv v h2⟩
    · exact ⟨hb, hthread (freeNext_mem heq), hv0⟩
    · exact ⟨hb, h0, hv0⟩

theorem HSet.bytes_roundtrip (hash : Nat → Nat) (f : HFmt) (hf : f.Ok) (s : HSet Nat) (h : s.Inv hash)
    (hv : f.valsOk s) : (f.ofBytes (f.toBytes (s.image 0))).bind (fun img => img.decode 0) = some s := by
  rw [HFmt.ofBytes_toBytes f hf _ (HSet.image_bounded hash f s h hv)]
  exact HImage.decode_image 0 s h.layoutOk

theorem ASet.bytes_roundtrip (f : AFmt) (hv : 0 < f.vsz) (s : ASet Nat)
    (h : s.Inv f.keyOf f.prefixMax) (hvals : ∀ v ∈ s.vals, v < 256 ^ f.vsz) :
    f.ofBytes (f.toBytes s) = some s := by
  apply AFmt.ofBytes_toBytes f hv s _ hvals
  have h1 := h.len_leP
  unfold AFmt.prefixMax at h1
  have h2 : 256 ^ f.pw = 2 ^ (8 * f.pw) := by rw [Nat.pow_mul]
  have h3 : 0 < 2 ^ (8 * f.pw) := Nat.pow_pos (by decide)
  omega

end Stevia
