/-
  Stevia.Proofs.GenTreeOpen — translated tree source = literal model (see `GenTreeBal`): `from_bytes_mut` raising the capacity
  to the number of records.
-/
import Stevia.Generated.Avl32Open
import Stevia.Generated.Avl8Open
import Stevia.Proofs.GenLemmas

namespace Stevia
open Imp
variable {α β : Type}
set_option linter.unusedSimpArgs false -- as in `GenTreeBal`

namespace Gen32

theorem from_bytes_mut_eq (d : Rec α β) (m : TreeImage α β) :
    from_bytes_mut d m = Imp.openMut cfgU32 m := by
  simp only [from_bytes_mut, Imp.openMut, cfgU32, Id.run, bind, pure, gt_iff_lt]

end Gen32

namespace Gen8

theorem from_bytes_mut_eq (d : Rec α β) (m : TreeImage α β) :
    from_bytes_mut d m = Imp.openMut cfgU8 m := by
  simp only [from_bytes_mut, Imp.openMut, cfgU8, Id.run, bind, pure, gt_iff_lt]

end Gen8

end Stevia
