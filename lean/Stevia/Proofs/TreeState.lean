/-
  Stevia.Proofs.TreeState — the tree as a state machine.  One invariant (`Tree.Inv`) that no operation of the
  API breaks and under which none faults (`step_ok`), so every reachable state has it (`reach_inv`); under it the
  tree answers as a capacity-bounded ordered map (`BMap`, `mapRun_refines`).  The mutations are specified through
  the in-order list of the root (TreeAvl) and the slot allocator (SlotAlloc).
  Statements that the property files or DESIGN.md cite (`alloc_spec`, …) stand in their cited form even where no
  proof uses them.
-/
import Stevia.Proofs.TreeAvl
import Stevia.Proofs.TreeLayoutRT

namespace Stevia
variable {α β : Type}

/-- Ordered; balanced with exact height registers; and the allocator's books: the live slots and the free list
    are exactly the slots `1 .. seq - 1`, each once (`nodup`, `range`, `count`).
    `seq_le`: the cursor is the next slot never handed out, so in a full tree with nothing released it stands one
    past the capacity.  `nowrap`: `add` advances the cursor by a checked `sequence + 1` in avl_tree.rs and by
    `wrapping_add(1)` in u8_avl_tree.rs; the checked one must stay within the index type, so a 32-bit tree has
    fewer than `W` records, while the 8-bit tree may have all `W` (its cursor register then wraps to 0). -/
structure Tree.Inv [LinOrd α] (c : TreeCfg) (s : Tree α β) : Prop where
  bst : s.root.Bst
  bal : s.root.Bal
  size_eq : s.size = s.root.size
  nodup : (s.root.slots ++ s.free).Nodup
  range : ∀ i ∈ s.root.slots ++ s.free, 1 ≤ i ∧ i < s.seq
  count : (s.root.slots ++ s.free).length + 1 = s.seq
  seq_le : s.seq ≤ s.cap + 1
  cap_le : s.cap ≤ s.slots
  slots_le : s.slots ≤ c.W
  nowrap : c.wrap = true ∨ s.slots < c.W

/-! Every mutating call of the API goes through a handle made by `from_bytes_mut`,
which is `openMut` (idempotent). -/

inductive TreeOp (α β : Type) where
  | insert (k : α) (v : β)
  | remove (k : α)
  | update (k : α) (v : β)
  | reopen
  | extend (n : Nat)

def Tree.step [LinOrd α] (c : TreeCfg) (s : Tree α β) : TreeOp α β → Except Fault (Tree α β)
  | .insert k v => ((s.openMut c).insert c k v).map (·.1)
  | .remove k => ((s.openMut c).remove k).map (·.1)
  | .update k v => .ok ((s.openMut c).update k v).1
  | .reopen => .ok (s.openMut c)
  | .extend n => .ok (s.extend n)

/-- Only growth has a side condition: the index type must be able to address the records. -/
def TreeOp.ok (c : TreeCfg) (s : Tree α β) : TreeOp α β → Prop
  | .extend n => s.slots + n ≤ c.W ∧ (c.wrap = true ∨ s.slots + n < c.W)
  | _ => True

/-- States reachable from `initialize(cap)` on a zero-filled buffer of `slots ≥ cap` records. -/
inductive Tree.Reach [LinOrd α] (c : TreeCfg) : Tree α β → Prop where
  | init (slots cap : Nat) (h1 : cap ≤ slots) (h2 : slots ≤ c.W) (h3 : c.wrap = true ∨ slots < c.W) :
      Tree.Reach c (Tree.init slots cap)
  | step {s s' : Tree α β} (op : TreeOp α β) (hr : Tree.Reach c s) (hok : op.ok c s)
      (hs : s.step c op = .ok s') : Tree.Reach c s'

section
variable [LinOrd α]

/-- Histories of the functional model: each step succeeds and each buffer extension stays within the index range. -/
inductive Tree.Steps (c : TreeCfg) : Tree α β → List (TreeOp α β) → Tree α β → Prop where
  | nil {s : Tree α β} : Tree.Steps c s [] s
  | cons {s s1 s2 : Tree α β} {ops : List (TreeOp α β)} (op : TreeOp α β) (hok : op.ok c s)
      (hstep : s.step c op = .ok s1) (hrest : Tree.Steps c s1 ops s2) : Tree.Steps c s (op :: ops) s2

end

section KV
variable [LinOrd α]

def insKV (e : α × β) : List (α × β) → List (α × β)
  | [] => [e]
  | x :: rest => if e.1 < x.1 then e :: x :: rest else x :: insKV e rest

def delKV (k : α) : List (α × β) → List (α × β)
  | [] => []
  | x :: rest => if x.1 < k ∨ k < x.1 then x :: delKV k rest else rest

def getKV (k : α) : List (α × β) → Option β
  | [] => none
  | x :: rest => if x.1 < k ∨ k < x.1 then getKV k rest else some x.2

def setKV (k : α) (v : β) : List (α × β) → List (α × β)
  | [] => []
  | x :: rest => if x.1 < k ∨ k < x.1 then x :: setKV k v rest else (x.1, v) :: rest

end KV

/-- Reference map: capacity and the entries in ascending key order. -/
structure BMap (α β : Type) where
  cap : Nat
  m : List (α × β)

inductive MapOp (α β : Type) where
  | insert (k : α) (v : β)
  | remove (k : α)
  | get (k : α)
  | update (k : α) (v : β)
  | contains (k : α)
  | lowest
  | len
  | isEmpty
  | isFull

inductive MapOut (α β : Type) where
  | bool (b : Bool)
  | val (o : Option β)
  | key (o : Option α)
  | nat (n : Nat)

/-- The reference semantics: insert succeeds exactly when the key is absent
    and the map not full and never overwrites; remove returns the stored value;
    lookups return the latest value written; lowest is the minimum key. -/
def BMap.step [LinOrd α] (b : BMap α β) : MapOp α β → BMap α β × MapOut α β
  | .insert k v =>
    if (getKV k b.m).isSome ∨ b.m.length ≥ b.cap then (b, .bool false)
    else ({ b with m := insKV (k, v) b.m }, .bool true)
  | .remove k =>
    match getKV k b.m with
    | none => (b, .val none)
    | some v => ({ b with m := delKV k b.m }, .val (some v))
  | .get k => (b, .val (getKV k b.m))
  | .update k v =>
    match getKV k b.m with
    | none => (b, .bool false)
    | some _ => ({ b with m := setKV k v b.m }, .bool true)
  | .contains k => (b, .bool (getKV k b.m).isSome)
  | .lowest => (b, .key (b.m.head?.map (·.1)))
  | .len => (b, .nat b.m.length)
  | .isEmpty => (b, .bool (b.m.length == 0))
  | .isFull => (b, .bool (b.m.length ≥ b.cap))

def BMap.run [LinOrd α] (b : BMap α β) : List (MapOp α β) → BMap α β × List (MapOut α β)
  | [] => (b, [])
  | op :: ops =>
    let r := b.step op
    let rr := BMap.run r.1 ops
    (rr.1, r.2 :: rr.2)

/-- The same operations on the tree model (through a mutable handle; `insert`
    reports `isSome` of the returned index). -/
def Tree.mapStep [LinOrd α] (c : TreeCfg) (s : Tree α β) :
    MapOp α β → Except Fault (Tree α β × MapOut α β)
  | .insert k v => (s.insert c k v).map fun r => (r.1, .bool r.2.isSome)
  | .remove k => (s.remove k).map fun r => (r.1, .val r.2)
  | .get k => .ok (s, .val (s.get k))
  | .update k v => .ok ((s.update k v).1, .bool (s.update k v).2)
  | .contains k => .ok (s, .bool (s.contains k))
  | .lowest => .ok (s, .key s.lowest)
  | .len => .ok (s, .nat s.len)
  | .isEmpty => .ok (s, .bool s.isEmpty)
  | .isFull => .ok (s, .bool s.isFull)

def Tree.mapRun [LinOrd α] (c : TreeCfg) (s : Tree α β) :
    List (MapOp α β) → Except Fault (Tree α β × List (MapOut α β))
  | [] => .ok (s, [])
  | op :: ops =>
    match s.mapStep c op with
    | .error e => .error e
    | .ok (s', o) =>
      match Tree.mapRun c s' ops with
      | .error e => .error e
      | .ok (s'', os) => .ok (s'', o :: os)

/-- Abstraction: capacity + in-order `(key, value)` list. -/
def Tree.abs (s : Tree α β) : BMap α β := { cap := s.cap, m := s.root.toList.map (·.2) }

/-- Insert every `(k, v)` of the list; every insertion must succeed. -/
def Tree.insertAll [LinOrd α] (c : TreeCfg) (s : Tree α β) : List (α × β) → Option (Tree α β)
  | [] => some s
  | (k, v) :: rest =>
    match s.insert c k v with
    | .ok (s', some _) => Tree.insertAll c s' rest
    | _ => none

section Lemmas
variable [LinOrd α] {c : TreeCfg} {s : Tree α β}

theorem Tree.Inv.slotsOk (h : s.Inv c) : Slots.Ok s.root.slots s.free s.seq :=
  ⟨h.nodup, h.range, h.count⟩

theorem Tree.Inv.seq_eq (h : s.Inv c) : s.size + s.free.length + 1 = s.seq := by
  rw [h.size_eq, ← T.length_slots]
  exact h.slotsOk.length

theorem Tree.Inv.sorted (h : s.Inv c) : SortedE s.root.toList := (T.bst_iff_sorted _).1 h.bst

theorem Tree.Inv.size_eq_length (h : s.Inv c) : s.size = s.root.toList.length :=
  h.size_eq.trans (T.size_eq_length _)

theorem Tree.Inv.size_le_cap (h : s.Inv c) : s.size ≤ s.cap := by
  have := h.seq_eq
  have := h.seq_le
  omega

/-- What is left to show for the invariant after `insert`, `remove`, `update`, which change root, free list, cursor
    and size only. -/
theorem Tree.Inv.replace (h : s.Inv c) {t : T α β} {fr : List Nat} {sq sz : Nat}
    (hs : SortedE t.toList) (hb : t.Bal) (hz : sz = t.toList.length) (ha : Slots.Ok t.slots fr sq)
    (hq : sq ≤ s.cap + 1) :
    ({ s with root := t, free := fr, seq := sq, size := sz } : Tree α β).Inv c :=
  ⟨(T.bst_iff_sorted t).2 hs, hb, hz.trans (T.size_eq_length t).symm, ha.nodup, ha.range, ha.count, hq,
    h.cap_le, h.slots_le, h.nowrap⟩

theorem Tree.openMut_eq (h : s.Inv c) :
    s.openMut c = { s with cap := s.slots } := by
  unfold Tree.openMut
  have := h.cap_le
  have := h.slots_le
  split
  · rw [Nat.mod_eq_of_lt (by omega)]
  · obtain ⟨root, size, cap, free, seq, slots⟩ := s
    obtain rfl : cap = slots := by simp only at *; omega
    rfl

theorem Tree.inv_init (c : TreeCfg) (slots cap : Nat) (h1 : cap ≤ slots) (h2 : slots ≤ c.W)
    (h3 : c.wrap = true ∨ slots < c.W) : (Tree.init slots cap : Tree α β).Inv c :=
  ⟨trivial, trivial, rfl, List.nodup_nil, fun _ hi => absurd hi List.not_mem_nil, rfl, Nat.le_add_left 1 cap,
    h1, h2, h3⟩

theorem Tree.inv_openMut (h : s.Inv c) : (s.openMut c).Inv c := by
  rw [Tree.openMut_eq h]
  exact { h with seq_le := Nat.le_trans h.seq_le (Nat.succ_le_succ h.cap_le), cap_le := Nat.le_refl _ }

omit [LinOrd α] in
theorem Tree.openMut_id (c : TreeCfg) (s : Tree α β) (h : s.slots ≤ s.cap) : s.openMut c = s := by
  unfold Tree.openMut
  rw [if_neg (by omega)]

theorem Tree.inv_extend (h : s.Inv c) (n : Nat)
    (hok : (TreeOp.extend n : TreeOp α β).ok c s) : (s.extend n).Inv c :=
  { h with cap_le := Nat.le_trans h.cap_le (Nat.le_add_right _ _), slots_le := hok.1, nowrap := hok.2 }

/-- Layout precondition follows from the invariant (so `decode (image s) = s` on reachable states). -/
theorem Tree.Inv.layoutOk {c : TreeCfg} {s : Tree α β} (h : s.Inv c) : s.LayoutOk c := by
  -- `1 ≤ seq ≤ cap + 1 ≤ slots + 1 ≤ W + 1`
  have hq1 : 1 ≤ s.seq := h.count ▸ Nat.le_add_left 1 _
  have hqs : s.seq ≤ s.slots + 1 := Nat.le_trans h.seq_le (Nat.succ_le_succ h.cap_le)
  have hqW : s.seq ≤ c.W + 1 := Nat.le_trans hqs (Nat.succ_le_succ h.slots_le)
  have hrange : ∀ i ∈ s.root.slots ++ s.free, 1 ≤ i ∧ i ≤ s.slots := fun i hi =>
    ⟨(h.range i hi).1, Nat.le_of_lt_succ (Nat.lt_of_lt_of_le (h.range i hi).2 hqs)⟩
  by_cases hw : s.seq ≤ c.W
  · -- the cursor is its own register
    have hreg := Tree.seqReg_of_le c s hw
    refine ⟨h.nodup, hrange, fun i hi => ?_, ?_⟩
    · rw [hreg]
      exact Nat.ne_of_lt (h.range i (List.mem_append_right _ hi)).2
    · rw [TreeImage.seqOfReg, hreg]
      simp [Nat.ne_of_gt hq1]
  · -- `seq = W + 1` reads 0: then `W ≤ cap ≤ slots ≤ W`, so the tree is a wrapping one of the largest capacity
    have e : s.seq = c.W + 1 := Nat.le_antisymm hqW (Nat.lt_of_not_le hw)
    have hreg : s.seqReg c = 0 := by rw [Tree.seqReg, e, Nat.mod_self]
    have hWc : c.W ≤ s.cap := Nat.le_of_succ_le_succ (Nat.le_trans (Nat.le_of_eq e.symm) h.seq_le)
    have hcap : s.cap = c.W := Nat.le_antisymm (Nat.le_trans h.cap_le h.slots_le) hWc
    have hwrap : c.wrap = true := h.nowrap.resolve_right (Nat.not_lt.2 (Nat.le_trans hWc h.cap_le))
    refine ⟨h.nodup, hrange, fun i hi => ?_, ?_⟩
    · rw [hreg]
      exact Nat.ne_of_gt (h.range i (List.mem_append_right _ hi)).1
    · simp [TreeImage.seqOfReg, hreg, hcap, hwrap, e]

theorem Tree.alloc_eq (h : s.Inv c) (hnf : s.size < s.cap) :
    s.alloc c = .ok ({ s with free := s.free.tail, size := s.size + 1,
                              seq := if s.free = [] then s.seq + 1 else s.seq }, s.free.head?.getD s.seq) := by
  -- `size + 1 ≤ cap ≤ slots ≤ W`
  have hss : s.size + 1 ≤ s.slots := Nat.le_trans hnf h.cap_le
  have hsz : ¬ s.size + 1 > c.W := Nat.not_lt.2 (Nat.le_trans hss h.slots_le)
  unfold Tree.alloc
  cases hfree : s.free with
  | cons i rest =>
    -- the head of the free list is a slot: at least 1 and at most the record count
    have hi := h.layoutOk.range i (by simp [hfree])
    simp only
    rw [if_neg (Nat.ne_of_gt hi.1), if_neg (Nat.not_lt.2 hi.2), if_neg hsz]
    rfl
  | nil =>
    -- nothing released: `seq = size + 1`, so the cursor is neither spent nor past the buffer; the checked
    -- increment of the 32-bit file stays within `W` because there `slots < W`
    have hq : s.seq = s.size + 1 := by rw [← h.seq_eq, hfree]; rfl
    have hw : ¬ ((!c.wrap && decide (s.size + 1 + 1 > c.W)) = true) := by
      rcases h.nowrap with hw | hw
      · simp [hw]
      · simp only [Bool.and_eq_true, decide_eq_true_eq, not_and]
        exact fun _ => Nat.not_lt.2 (Nat.le_trans (Nat.succ_le_succ hss) hw)
    simp only
    rw [hq, Nat.add_sub_cancel, if_neg (Nat.succ_ne_zero _), if_neg (Nat.ne_of_lt hnf), if_neg hw,
      if_neg (Nat.not_lt.2 hss), if_neg hsz]
    rfl

theorem Tree.Inv.alloc_ok (h : s.Inv c) (hnf : s.size < s.cap) {i sq : Nat} {fr : List Nat}
    (ha : Slots.Alloc s.free s.seq i fr sq) :
    1 ≤ i ∧ i ≤ s.slots ∧ i ∉ s.root.slots ∧ sq ≤ s.cap + 1 ∧ Slots.Ok (i :: s.root.slots) fr sq := by
  have hf := h.slotsOk.alloc_fresh ha
  have hq := h.slotsOk.alloc_seq_le ha h.seq_le (by rw [T.length_slots, ← h.size_eq]; exact hnf)
  have := h.cap_le
  exact ⟨hf.1, by omega, hf.2.2, hq, h.slotsOk.alloc ha⟩

/-- Allocation never faults on a non-full well-formed state, returns a slot that
    is in range and not in use, and keeps the rest of the allocator invariant
    (the last conjunct is `Slots.Alloc s.free s.seq i s'.free s'.seq` spelt out; `alloc_eq` gives the state itself). -/
theorem Tree.alloc_spec {c : TreeCfg} {s : Tree α β} (h : s.Inv c) (hnf : s.size < s.cap) :
    ∃ s' i, s.alloc c = .ok (s', i) ∧ 1 ≤ i ∧ i ≤ s.slots ∧ i ∉ s.root.slots ∧
      s'.root = s.root ∧ s'.size = s.size + 1 ∧ s'.cap = s.cap ∧ s'.slots = s.slots ∧
      ((s.free = i :: s'.free ∧ s'.seq = s.seq) ∨
       (s.free = [] ∧ s'.free = [] ∧ i = s.seq ∧ s'.seq = s.seq + 1)) := by
  have ha := Slots.Alloc.head s.free s.seq
  obtain ⟨h1, h2, h3, _⟩ := h.alloc_ok hnf ha
  exact ⟨_, _, Tree.alloc_eq h hnf, h1, h2, h3, rfl, rfl, rfl, rfl, ha⟩

theorem Tree.insert_eq_of_absent (h : s.Inv c) {k : α} (v : β) (hfind : s.root.find k = none)
    (hnf : s.size < s.cap) :
    s.insert c k v = .ok ({ s with root := s.root.ins (s.free.head?.getD s.seq) k v, free := s.free.tail,
                                   size := s.size + 1, seq := if s.free = [] then s.seq + 1 else s.seq },
      some (s.free.head?.getD s.seq)) := by
  unfold Tree.insert
  rw [if_neg (by simp [hfind]), if_neg (by simpa [Tree.isFull] using hnf), Tree.alloc_eq h hnf]

/-- `insert` on a well-formed state: never faults; refuses exactly for a present
    key or a full tree (state unchanged); otherwise the in-order list gains the
    entry at its sorted position, in a slot that was not in use. -/
theorem Tree.insert_spec {c : TreeCfg} {s : Tree α β} (h : s.Inv c) (k : α) (v : β) :
    (((s.root.find k).isSome ∨ s.size ≥ s.cap) ∧ s.insert c k v = .ok (s, none)) ∨
    ((s.root.find k) = none ∧ s.size < s.cap ∧
      ∃ s' i, s.insert c k v = .ok (s', some i) ∧ s'.Inv c ∧
        s'.root.toList = insL (i, k, v) s.root.toList ∧ i ∉ s.root.slots ∧ 1 ≤ i ∧ i ≤ s.slots ∧
        s'.cap = s.cap ∧ s'.slots = s.slots ∧ s'.size = s.size + 1) := by
  by_cases hfind : (s.root.find k).isSome
  · exact .inl ⟨.inl hfind, by rw [Tree.insert, if_pos hfind]⟩
  · have hnone : s.root.find k = none := by simpa using hfind
    by_cases hfull : s.size ≥ s.cap
    · exact .inl ⟨.inr hfull, by rw [Tree.insert, if_neg hfind, if_pos (by simpa [Tree.isFull] using hfull)]⟩
    · have hnf : s.size < s.cap := by omega
      obtain ⟨hi1, hi2, hni, hq, hok⟩ := h.alloc_ok hnf (Slots.Alloc.head s.free s.seq)
      have hl := T.toList_ins h.bst (s.free.head?.getD s.seq) k v hnone
      refine .inr ⟨hnone, hnf, _, _, Tree.insert_eq_of_absent h v hnone hnf, ?_, hl, hni, hi1, hi2, rfl, rfl, rfl⟩
      refine h.replace (hl ▸ sorted_insL h.sorted _ ?_) (T.ins_bal h.bal _ k v).1 ?_
        (hok.perm (T.slots_ins_perm h.bst _ k v hnone)) hq
      · rw [← T.find_eq_findL h.bst]; exact hnone
      · rw [hl, length_insL, h.size_eq_length]

/-- What a successful `insert` did. -/
theorem Tree.insert_some (h : s.Inv c) {k : α} {v : β} {s' : Tree α β} {i : Nat}
    (hi : s.insert c k v = .ok (s', some i)) :
    s.root.find k = none ∧ s'.Inv c ∧ s'.root.toList = insL (i, k, v) s.root.toList ∧ i ∉ s.root.slots ∧
      1 ≤ i ∧ i ≤ s.slots ∧ s'.cap = s.cap ∧ s'.slots = s.slots ∧ s'.size = s.size + 1 := by
  rcases Tree.insert_spec h k v with ⟨_, he⟩ | ⟨hf, _, s1, i1, he, hrest⟩
  · rw [he] at hi
    cases hi
  · rw [he] at hi
    cases hi
    exact ⟨hf, hrest⟩

/-- `remove` of a present key, with the new state spelt out; `remove_spec` and `free_reused` follow from it, and
    the proofs about the literal `remove` take it in this form. -/
theorem Tree.remove_found (h : s.Inv c) {k : α} {i : Nat} {v : β}
    (hf : s.root.find k = some (i, v)) :
    s.remove k = .ok ({ s with root := s.root.del k, free := i :: s.free, size := s.size - 1 }, some v) ∧
      ({ s with root := s.root.del k, free := i :: s.free, size := s.size - 1 } : Tree α β).Inv c ∧
      s.root.slots.Perm (i :: (s.root.del k).slots) := by
  have hfl : findL k s.root.toList = some (i, v) := by rw [← T.find_eq_findL h.bst]; exact hf
  have hl := T.toList_del h.bst k
  have hlen := length_delL hfl
  have hsz := h.size_eq_length
  have hps : s.root.slots.Perm (i :: (s.root.del k).slots) := by
    unfold T.slots
    rw [hl]
    exact (perm_delL hfl).map (·.1)
  refine ⟨?_, ?_, hps⟩
  · unfold Tree.remove
    rw [hf]
    exact if_neg (by omega)
  · exact h.replace (hl ▸ sorted_delL h.sorted k) (T.del_bal h.bal k).1
      (by rw [hl]; omega) (h.slotsOk.perm hps.symm).release h.seq_le

theorem Tree.remove_spec (h : s.Inv c) (k : α) :
    (s.root.find k = none ∧ s.remove k = .ok (s, none)) ∨
    (∃ i v s', s.root.find k = some (i, v) ∧ s.remove k = .ok (s', some v) ∧ s'.Inv c ∧
        s'.root.toList = delL k s.root.toList ∧ s'.free = i :: s.free ∧
        s'.cap = s.cap ∧ s'.slots = s.slots ∧ s'.size + 1 = s.size ∧ s'.seq = s.seq) := by
  cases hfind : s.root.find k with
  | none => exact .inl ⟨rfl, by simp [Tree.remove, hfind]⟩
  | some p =>
    obtain ⟨he, hi, hps⟩ := Tree.remove_found h hfind
    have hpos := hps.length_eq
    rw [T.length_slots, ← h.size_eq, List.length_cons] at hpos
    exact .inr ⟨p.1, p.2, _, rfl, he, hi, T.toList_del h.bst k, rfl, rfl, rfl, by show s.size - 1 + 1 = _; omega,
      rfl⟩

/-- What a successful `remove` did. -/
theorem Tree.remove_some (h : s.Inv c) {k : α} {v : β} {s' : Tree α β} (hr : s.remove k = .ok (s', some v)) :
    ∃ i, s.root.find k = some (i, v) ∧ s'.Inv c ∧ s'.root.toList = delL k s.root.toList ∧
      s'.free = i :: s.free ∧ s'.cap = s.cap ∧ s'.slots = s.slots ∧ s'.size + 1 = s.size ∧ s'.seq = s.seq := by
  rcases Tree.remove_spec h k with ⟨_, he⟩ | ⟨i, v1, s1, hf, he, hrest⟩
  · rw [he] at hr
    cases hr
  · rw [he] at hr
    cases hr
    exact ⟨i, hf, hrest⟩

theorem Tree.update_spec (h : s.Inv c) (k : α) (v : β) :
    (s.root.find k = none ∧ s.update k v = (s, false)) ∨
    ((s.root.find k).isSome ∧ (s.update k v).2 = true ∧ (s.update k v).1.Inv c ∧
        (s.update k v).1.root.toList = setL k v s.root.toList ∧
        (s.update k v).1.cap = s.cap ∧ (s.update k v).1.slots = s.slots ∧
        (s.update k v).1.size = s.size ∧ (s.update k v).1.free = s.free ∧ (s.update k v).1.seq = s.seq) := by
  unfold Tree.update
  cases hfind : s.root.find k with
  | none => exact .inl ⟨rfl, rfl⟩
  | some p =>
    have hl := T.toList_setVal h.bst k v
    refine .inr ⟨rfl, rfl, ?_, hl, rfl, rfl, rfl, rfl, rfl⟩
    exact h.replace (hl ▸ sorted_setL h.sorted k v) (T.setVal_bal h.bal k v).1
      (by rw [hl, length_setL]; exact h.size_eq_length) ((T.slots_setVal k v s.root).symm ▸ h.slotsOk) h.seq_le

/-- No operation faults on a well-formed state, and the invariant is preserved. -/
theorem Tree.step_ok {c : TreeCfg} {s : Tree α β} (h : s.Inv c) (op : TreeOp α β) (hok : op.ok c s) :
    ∃ s', s.step c op = .ok s' ∧ s'.Inv c := by
  have ho := Tree.inv_openMut h
  cases op with
  | insert k v =>
    rcases Tree.insert_spec ho k v with ⟨_, he⟩ | ⟨_, _, s', i, he, hi, _⟩
    · exact ⟨s.openMut c, by simp [Tree.step, he, Except.map], ho⟩
    · exact ⟨s', by simp [Tree.step, he, Except.map], hi⟩
  | remove k =>
    rcases Tree.remove_spec ho k with ⟨_, he⟩ | ⟨i, v, s', _, he, hi, _⟩
    · exact ⟨s.openMut c, by simp [Tree.step, he, Except.map], ho⟩
    · exact ⟨s', by simp [Tree.step, he, Except.map], hi⟩
  | update k v =>
    refine ⟨_, rfl, ?_⟩
    rcases Tree.update_spec ho k v with ⟨_, he⟩ | ⟨_, _, hi, _⟩
    · rw [he]; exact ho
    · exact hi
  | reopen => exact ⟨_, rfl, ho⟩
  | extend n => exact ⟨_, rfl, Tree.inv_extend h n hok⟩

theorem Tree.reach_inv {c : TreeCfg} {s : Tree α β} (h : Tree.Reach c s) : s.Inv c := by
  induction h with
  | init slots cap h1 h2 h3 => exact Tree.inv_init c slots cap h1 h2 h3
  | step op hr hok hs ih => exact Except.of_ok (Tree.step_ok ih op hok) hs

theorem map_insL (e : Entry α β) (l : List (Entry α β)) :
    (insL e l).map (·.2) = insKV e.2 (l.map (·.2)) := by
  induction l with
  | nil => rfl
  | cons x rest ih =>
    simp only [insL, List.map_cons, insKV]
    split <;> simp [ih]

theorem map_delL (k : α) (l : List (Entry α β)) :
    (delL k l).map (·.2) = delKV k (l.map (·.2)) := by
  induction l with
  | nil => rfl
  | cons x rest ih =>
    simp only [delL, List.map_cons, delKV]
    split <;> simp [ih]

theorem map_setL (k : α) (v : β) (l : List (Entry α β)) :
    (setL k v l).map (·.2) = setKV k v (l.map (·.2)) := by
  induction l with
  | nil => rfl
  | cons x rest ih =>
    simp only [setL, List.map_cons, setKV]
    split <;> simp [ih]

theorem getKV_map (k : α) (l : List (Entry α β)) :
    getKV k (l.map (·.2)) = (findL k l).map (·.2) := by
  induction l with
  | nil => rfl
  | cons x rest ih =>
    simp only [findL, List.map_cons, getKV]
    split <;> simp [ih]

theorem Tree.mapStep_refines (h : s.Inv c) (op : MapOp α β) :
    ∃ s', s.mapStep c op = .ok (s', (s.abs.step op).2) ∧ s'.Inv c ∧ s'.abs = (s.abs.step op).1 := by
  have hg : ∀ k, getKV k s.abs.m = (s.root.find k).map (·.2) := by
    intro k
    rw [T.find_eq_findL h.bst]
    exact getKV_map k _
  have hl : s.abs.m.length = s.size := by
    rw [h.size_eq_length]
    simp [Tree.abs]
  have hcap : s.abs.cap = s.cap := rfl
  have hlow : s.abs.m.head?.map (·.1) = s.lowest := by
    simp only [Tree.lowest, T.minKey_eq, Tree.abs, List.head?_map, Option.map_map]
    rfl
  cases op with
  | insert k v =>
    simp only [Tree.mapStep, BMap.step, hg, hl, hcap, Option.isSome_map]
    rcases Tree.insert_spec h k v with ⟨hc, he⟩ | ⟨hn, hlt, s', i, he, hi, htl, _, _, _, hc', _⟩
    · rw [if_pos hc, he]
      exact ⟨s, rfl, h, rfl⟩
    · rw [if_neg (by rw [hn]; exact fun hc => hc.elim nofun (Nat.not_le_of_lt hlt)), he]
      exact ⟨s', rfl, hi, by simp only [Tree.abs, htl, map_insL, hc']⟩
  | remove k =>
    simp only [Tree.mapStep, BMap.step, hg]
    rcases Tree.remove_spec h k with ⟨hn, he⟩ | ⟨i, v, s', hf, he, hi, htl, _, hc', _⟩
    · rw [hn, he]
      exact ⟨s, rfl, h, rfl⟩
    · rw [hf, he]
      exact ⟨s', rfl, hi, by simp only [Tree.abs, htl, map_delL, hc', Option.map_some]⟩
  | update k v =>
    simp only [Tree.mapStep, BMap.step, hg]
    rcases Tree.update_spec h k v with ⟨hn, he⟩ | ⟨hf, hb, hi, htl, hc', _⟩
    · rw [hn, he]
      exact ⟨s, rfl, h, rfl⟩
    · obtain ⟨p, hp⟩ := Option.isSome_iff_exists.1 hf
      rw [hp, hb]
      exact ⟨_, rfl, hi, by simp only [Tree.abs, htl, map_setL, hc', Option.map_some]⟩
  | _ =>
    -- `get contains lowest len isEmpty isFull`: the state stays, and each answer is a function of `find`, the
    -- size or the first entry, which `hg hl hcap hlow` translate to the reference's
    refine ⟨s, ?_, h, rfl⟩
    simp only [Tree.mapStep, BMap.step, hg, hl, hcap, hlow, Tree.get, Tree.contains, Tree.len, Tree.isEmpty,
      Tree.isFull, Option.isSome_map]

theorem Tree.mapRun_refines (h : s.Inv c) (ops : List (MapOp α β)) :
    ∃ s', s.mapRun c ops = .ok (s', (s.abs.run ops).2) ∧ s'.Inv c ∧ s'.abs = (s.abs.run ops).1 := by
  induction ops generalizing s with
  | nil => exact ⟨s, rfl, h, rfl⟩
  | cons op ops ih =>
    obtain ⟨s1, he, hi, ha⟩ := Tree.mapStep_refines h op
    obtain ⟨s2, he2, hi2, ha2⟩ := ih hi
    refine ⟨s2, ?_, hi2, ?_⟩
    · simp only [Tree.mapRun, he, he2, BMap.run]
      rw [← ha]
    · simp only [BMap.run]
      rw [← ha]
      exact ha2

theorem Tree.fill_partial (h : s.Inv c) (kvs : List (α × β))
    (hnd : (kvs.map (·.1)).Pairwise (fun a b => a < b ∨ b < a))
    (hfresh : ∀ e ∈ kvs, s.root.find e.1 = none)
    (hlen : kvs.length + s.size ≤ s.cap) :
    ∃ s', s.insertAll c kvs = some s' ∧ s'.Inv c ∧ s'.size = s.size + kvs.length ∧ s'.cap = s.cap := by
  induction kvs generalizing s with
  | nil => exact ⟨s, rfl, h, by simp, rfl⟩
  | cons e rest ih =>
    obtain ⟨k, v⟩ := e
    have hfk : s.root.find k = none := hfresh (k, v) (by simp)
    simp only [List.length_cons] at hlen
    simp only [List.map_cons, List.pairwise_cons] at hnd
    rcases Tree.insert_spec h k v with ⟨hc, _⟩ | ⟨_, _, s1, i, he, hi, htl, _, _, _, hc1, _, hsz1⟩
    · rcases hc with hc | hc
      · simp [hfk] at hc
      · omega
    · have hfresh1 : ∀ e ∈ rest, s1.root.find e.1 = none := by
        intro e he'
        have hke := hnd.1 e.1 (List.mem_map.2 ⟨e, he', rfl⟩)
        rw [T.find_eq_findL hi.bst, htl, findL_insL_other (i, k, v) hke.symm,
          ← T.find_eq_findL h.bst]
        exact hfresh e (List.mem_cons_of_mem _ he')
      obtain ⟨s2, he2, hi2, hsz2, hc2⟩ := ih hi hnd.2 hfresh1 (by omega)
      refine ⟨s2, ?_, hi2, ?_, by rw [hc2, hc1]⟩
      · simp only [Tree.insertAll, he]
        exact he2
      · rw [hsz2, hsz1, List.length_cons]
        omega

/-- Exactly `cap - size` further fresh entries fit. -/
theorem Tree.fill_spec {c : TreeCfg} {s : Tree α β} (h : s.Inv c) (kvs : List (α × β))
    (hnd : (kvs.map (·.1)).Pairwise (fun a b => a < b ∨ b < a))
    (hfresh : ∀ e ∈ kvs, s.root.find e.1 = none)
    (hlen : kvs.length + s.size = s.cap) :
    ∃ s', s.insertAll c kvs = some s' ∧ s'.Inv c ∧ s'.size = s'.cap ∧ s'.cap = s.cap ∧
      ∀ k v, s'.insert c k v = .ok (s', none) := by
  obtain ⟨s', he, hi, hsz, hc⟩ := Tree.fill_partial h kvs hnd hfresh (by omega)
  refine ⟨s', he, hi, by omega, hc, ?_⟩
  intro k v
  rcases Tree.insert_spec hi k v with ⟨_, hins⟩ | ⟨_, hlt, _⟩
  · exact hins
  · omega

/-- A released slot is the next one handed out. -/
theorem Tree.free_reused {c : TreeCfg} {s s' : Tree α β} (h : s.Inv c) {k : α} {i : Nat} {v : β}
    (hf : s.root.find k = some (i, v)) (hr : s.remove k = .ok (s', some v)) (k' : α) (v' : β)
    (hk : s'.root.find k' = none) :
    ∃ s'', s'.insert c k' v' = .ok (s'', some i) := by
  obtain ⟨he, hi, _⟩ := Tree.remove_found h hf
  rw [hr] at he
  cases he
  have := h.size_le_cap
  have := hi.seq_eq
  have := h.seq_eq
  have hnf : s.size - 1 < s.cap := by simp only [List.length_cons] at *; omega
  exact ⟨_, Tree.insert_eq_of_absent hi v' hk hnf⟩

/-- Growth: extending by `n` records and re-opening keeps the entries and adds exactly `n` slots. -/
theorem Tree.grow_spec {c : TreeCfg} {s : Tree α β} (h : s.Inv c) (n : Nat)
    (hok : (TreeOp.extend n : TreeOp α β).ok c s) :
    ((s.extend n).openMut c).Inv c ∧ ((s.extend n).openMut c).root = s.root ∧
    ((s.extend n).openMut c).size = s.size ∧
    (0 < n → ((s.extend n).openMut c).cap = s.slots + n) ∧
    (s.extend n).root = s.root ∧ (s.extend n).cap = s.cap ∧ (s.extend n).size = s.size := by
  have he := Tree.inv_extend h n hok
  have ho := Tree.openMut_eq he
  exact ⟨Tree.inv_openMut he, by rw [ho]; rfl, by rw [ho]; rfl, fun _ => by rw [ho]; rfl, rfl, rfl, rfl⟩

/-- The layout of a buffer extended by `n` zero-filled records is the old layout followed by `n` default records. -/
theorem Tree.image_extend (c : TreeCfg) (kd : α) (vd : β) (s : Tree α β) (h : s.Inv c) (n : Nat) :
    (s.extend n).image c kd vd =
      { hdr := (s.image c kd vd).hdr, recs := (s.image c kd vd).recs ++ List.replicate n (Imp.dflt kd vd) } := by
  have hrec : ∀ j, s.slots ≤ j → s.recAt c kd vd (j + 1) = Imp.dflt kd vd := by
    intro j hj
    have hnot : j + 1 ∉ s.root.slots ++ s.free := fun hm => by
      have := (h.layoutOk.range _ hm).2
      omega
    exact Tree.recAt_unused c kd vd s (fun hm => hnot (List.mem_append_left _ hm))
      (fun hm => hnot (List.mem_append_right _ hm))
  show TreeImage.mk ((s.extend n).hdr c) ((List.range (s.extend n).slots).map fun j => (s.extend n).recAt c kd vd (j + 1)) = _
  have e1 : (s.extend n).hdr c = s.hdr c := rfl
  have e2 : (s.extend n).slots = s.slots + n := rfl
  have e3 : ∀ j, (s.extend n).recAt c kd vd j = s.recAt c kd vd j := fun _ => rfl
  simp only [e1, e2, e3, Tree.image]
  congr 1
  rw [List.range_add, List.map_append]
  congr 1
  rw [List.map_map]
  apply List.ext_getElem
  · simp
  · intro i h1 h2
    simp only [List.getElem_map, List.getElem_range, Function.comp, List.getElem_replicate]
    exact hrec _ (by omega)

end Lemmas

theorem Tree.height_closed_form [LinOrd α] (c : TreeCfg) (s : Tree α β) (h : Tree.Reach c s) :
    2 ^ (s.root.height / 2) ≤ s.size + 1 :=
  (Tree.reach_inv h).size_eq ▸ T.pow_height_le_size (Tree.reach_inv h).bal

end Stevia
