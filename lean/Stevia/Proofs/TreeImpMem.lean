/-
  Stevia.Proofs.TreeImpMem — memory-level lemmas for the literal model: an image is a header plus a
  function from slot to record (`mkImg`), reads and writes of the literal model are lookups and
  point updates of that function.  Also the two notions every later lemma is stated with: `Valid`
  (distinct records of the buffer) and `Agree` (two memories are equal off a footprint).
-/
import Stevia.Proofs.TreeLayoutRT
import Stevia.Proofs.TreeImpPhases

namespace Stevia
variable {α β : Type}

/-- Image from a header and a slot-indexed function (slot `j` is record `j - 1`). -/
def mkImg (hdr : Hdr) (n : Nat) (f : Nat → Rec α β) : TreeImage α β :=
  { hdr := hdr, recs := (List.range n).map fun j => f (j + 1) }

/-- The memory `f` with the record of slot `i` replaced by `r`. -/
def upd (f : Nat → Rec α β) (i : Nat) (r : Rec α β) : Nat → Rec α β :=
  fun j => if j = i then r else f j

@[simp] theorem upd_same (f : Nat → Rec α β) (i : Nat) (r : Rec α β) : upd f i r i = r := by
  simp [upd]

theorem upd_ne (f : Nat → Rec α β) {i j : Nat} (r : Rec α β) (h : j ≠ i) : upd f i r j = f j := by
  simp [upd, h]

@[simp] theorem upd_upd (f : Nat → Rec α β) (i : Nat) (r r' : Rec α β) :
    upd (upd f i r) i r' = upd f i r' := by
  funext j; simp only [upd]; split <;> rfl

theorem Tree.image_eq_mkImg (c : TreeCfg) (kd : α) (vd : β) (s : Tree α β) :
    s.image c kd vd = mkImg (s.hdr c) s.slots (s.recAt c kd vd) := rfl

@[simp] theorem mkImg_hdr (hdr : Hdr) (n : Nat) (f : Nat → Rec α β) : (mkImg hdr n f).hdr = hdr := rfl

@[simp] theorem mkImg_recs_length (hdr : Hdr) (n : Nat) (f : Nat → Rec α β) :
    (mkImg hdr n f).recs.length = n := by simp [mkImg]

theorem mk_recs_mkImg (h' hdr : Hdr) (n : Nat) (f : Nat → Rec α β) :
    ({ hdr := h', recs := (mkImg hdr n f).recs } : TreeImage α β) = mkImg h' n f := rfl

theorem mkImg_congr (hdr : Hdr) (n : Nat) {f g : Nat → Rec α β}
    (h : ∀ j, 1 ≤ j → j ≤ n → f j = g j) : mkImg hdr n f = mkImg hdr n g := by
  unfold mkImg
  congr 1
  apply List.map_congr_left
  intro j hj
  exact h (j + 1) (by omega) (by have := List.mem_range.1 hj; omega)

theorem rd_mkImg (d : Rec α β) (hdr : Hdr) (n : Nat) (f : Nat → Rec α β) {i : Nat}
    (h1 : 1 ≤ i) (h2 : i ≤ n) : Imp.rd d (mkImg hdr n f) i = f i := by
  unfold Imp.rd mkImg
  rw [if_neg (by omega)]
  simp only [List.getD_eq_getElem?_getD, List.getElem?_map]
  rw [List.getElem?_range (by omega)]
  simp [show i - 1 + 1 = i by omega]

theorem wr_mkImg (hdr : Hdr) (n : Nat) (f : Nat → Rec α β) (i : Nat) (g : Rec α β → Rec α β) :
    Imp.wr (mkImg hdr n f) i g = mkImg hdr n (upd f i (g (f i))) := by
  unfold Imp.wr
  split
  · rename_i h
    subst h
    apply mkImg_congr
    intro j hj _
    rw [upd_ne _ _ (by omega)]
  · rename_i h
    unfold mkImg
    congr 1
    apply List.ext_getElem?
    intro j
    simp only [List.getElem?_modify, List.getElem?_map]
    by_cases hj : j < n
    · rw [List.getElem?_range hj]
      simp only [Option.map_some, upd]
      by_cases hij : i - 1 = j
      · have : j + 1 = i := by omega
        simp [hij, this]
      · have : j + 1 ≠ i := by omega
        simp [hij, this]
    · rw [List.getElem?_eq_none (by simp; omega)]
      simp

theorem setRoot_mkImg (hdr : Hdr) (n : Nat) (f : Nat → Rec α β) (v : Nat) :
    Imp.setRoot (mkImg hdr n f) v = mkImg { hdr with root := v } n f := rfl

theorem Hdr.root_self (hdr : Hdr) {x : Nat} (e : hdr.root = x) : { hdr with root := x } = hdr := by
  subst e; rfl

theorem ite_rd_mkImg {γ : Type} (d : Rec α β) (hdr : Hdr) (n : Nat) (f : Nat → Rec α β) {x : Nat} (hx : x ≤ n)
    (g : Rec α β → γ) (z : γ) :
    (if x ≠ 0 then g (Imp.rd d (mkImg hdr n f) x) else z) = if x ≠ 0 then g (f x) else z := by
  split
  · rw [rd_mkImg d hdr n f (by omega) hx]
  · rfl

/-- What `balance_factor` / `update_height` read through a child register. -/
def hgt (f : Nat → Rec α β) (x : Nat) : Nat := if x ≠ 0 then (f x).height + 1 else 0

theorem hgt_upd_ne (f : Nat → Rec α β) {i x : Nat} (r : Rec α β) (h : x ≠ i) :
    hgt (upd f i r) x = hgt f x := by
  simp [hgt, upd, h]

theorem updateHeight_mkImg (d : Rec α β) (hdr : Hdr) (n : Nat) (f : Nat → Rec α β) {i : Nat}
    (h1 : 1 ≤ i) (h2 : i ≤ n) (hl : (f i).left ≤ n) (hr : (f i).right ≤ n) :
    Imp.updateHeight d (mkImg hdr n f) i =
      mkImg hdr n (upd f i { f i with height := max (hgt f (f i).left) (hgt f (f i).right) }) := by
  unfold Imp.updateHeight
  simp only [rd_mkImg d hdr n f h1 h2, ite_rd_mkImg d hdr n f hl Rec.height, ite_rd_mkImg d hdr n f hr Rec.height,
    wr_mkImg]
  congr 3
  unfold hgt
  by_cases ha : (f i).left = 0 <;> by_cases hb : (f i).right = 0 <;> simp [ha, hb]

/-- `update_child` as a point update, in three strengths.  This one computes the height register it writes, and for
    that needs both child registers in range and off `p`; `updateChild_link` below leaves the height open, which is
    enough at a path node, whose height `rebalance` recomputes before anything reads it.  On top of them:
    `updateChild_fill` (TreeImpRep) puts a represented subtree under a frame, `RepCtx.relink_slot` / `RepCtx.relink`
    (TreeImpLoop) write the hole of a zipper, `relinkParent_spec` (TreeImpRemove) does so where there may be no
    parent. -/
theorem updateChild_mkImg (d : Rec α β) (hdr : Hdr) (n : Nat) (f : Nat → Rec α β) {p c : Nat} (b : Bool)
    (h1 : 1 ≤ p) (h2 : p ≤ n) (hc : c ≤ n) (ho : (f p).child (!b) ≤ n) (hcp : c ≠ p)
    (hop : (f p).child (!b) ≠ p) :
    Imp.updateChild d (mkImg hdr n f) p b c =
      mkImg hdr n (upd f p ((f p).link b c (max (hgt f c) (hgt f ((f p).child (!b)))))) := by
  unfold Imp.updateChild Rec.link
  unfold Rec.child at ho hop ⊢
  cases b
  · simp only [wr_mkImg, Bool.false_eq_true, if_false, Bool.not_false, if_true] at ho hop ⊢
    rw [updateHeight_mkImg d hdr n _ h1 h2 (by simpa using hc) (by simpa using ho)]
    simp only [upd_same, upd_upd]
    rw [hgt_upd_ne _ _ hcp, hgt_upd_ne _ _ hop]
  · simp only [wr_mkImg, if_true, Bool.not_true, Bool.false_eq_true, if_false] at ho hop ⊢
    rw [updateHeight_mkImg d hdr n _ h1 h2 (by simpa using ho) (by simpa using hc)]
    simp only [upd_same, upd_upd]
    rw [hgt_upd_ne _ _ hcp, hgt_upd_ne _ _ hop, Nat.max_comm]

theorem updateChild_link (d : Rec α β) (hdr : Hdr) (n : Nat) (f : Nat → Rec α β) {p : Nat} (b : Bool) (c : Nat)
    (h1 : 1 ≤ p) (h2 : p ≤ n) :
    ∃ H, Imp.updateChild d (mkImg hdr n f) p b c = mkImg hdr n (upd f p ((f p).link b c H)) := by
  unfold Imp.updateChild Imp.updateHeight Rec.link
  simp only [wr_mkImg, rd_mkImg d hdr n _ h1 h2, upd_same, upd_upd]
  cases b <;> exact ⟨_, rfl⟩

theorem balanceFactor_mkImg (d : Rec α β) (hdr : Hdr) (n : Nat) (f : Nat → Rec α β) {a b : Nat}
    (ha : a ≤ n) (hb : b ≤ n) :
    Imp.balanceFactor d (mkImg hdr n f) a b = (hgt f a : Int) - (hgt f b : Int) := by
  unfold Imp.balanceFactor hgt
  rw [ite_rd_mkImg d hdr n f ha (fun r => (r.height : Int) + 1),
    ite_rd_mkImg d hdr n f hb (fun r => (r.height : Int) + 1)]
  simp only [apply_ite Nat.cast, Int.natCast_add, Int.natCast_one, Int.natCast_zero]

/-- `l` lists distinct records of a buffer of `n` records. -/
structure Valid (n : Nat) (l : List Nat) : Prop where
  nodup : l.Nodup
  range : ∀ i ∈ l, 1 ≤ i ∧ i ≤ n

theorem Valid.perm {n : Nat} {l l' : List Nat} (h : Valid n l) (p : l'.Perm l) : Valid n l' :=
  ⟨p.nodup_iff.2 h.nodup, fun i hi => h.range i (p.mem_iff.1 hi)⟩

theorem Valid.sublist {n : Nat} {l l' : List Nat} (h : Valid n l) (s : l'.Sublist l) : Valid n l' :=
  ⟨s.nodup h.nodup, fun i hi => h.range i (s.mem hi)⟩

theorem valid_cons {n i : Nat} {l : List Nat} :
    Valid n (i :: l) ↔ (1 ≤ i ∧ i ≤ n) ∧ i ∉ l ∧ Valid n l := by
  constructor
  · intro h
    obtain ⟨h1, h2⟩ := List.nodup_cons.1 h.nodup
    exact ⟨h.range i (List.mem_cons_self ..), h1, h2, fun j hj => h.range j (List.mem_cons_of_mem _ hj)⟩
  · rintro ⟨hi, h1, h2⟩
    exact ⟨List.nodup_cons.2 ⟨h1, h2.nodup⟩, fun j hj => (List.mem_cons.1 hj).elim (· ▸ hi) (h2.range j)⟩

theorem valid_append {n : Nat} {a b : List Nat} :
    Valid n (a ++ b) ↔ Valid n a ∧ Valid n b ∧ ∀ i ∈ a, i ∉ b := by
  constructor
  · intro h
    obtain ⟨h1, h2, h3⟩ := List.nodup_append.1 h.nodup
    exact ⟨⟨h1, fun i hi => h.range i (List.mem_append_left _ hi)⟩,
      ⟨h2, fun i hi => h.range i (List.mem_append_right _ hi)⟩, fun i hi hb => h3 i hi i hb rfl⟩
  · rintro ⟨ha, hb, h3⟩
    exact ⟨List.nodup_append.2 ⟨ha.nodup, hb.nodup, fun i hi j hj e => h3 i hi (e ▸ hj)⟩,
      fun i hi => (List.mem_append.1 hi).elim (ha.range i) (hb.range i)⟩

theorem Valid.left {n : Nat} {a b : List Nat} (h : Valid n (a ++ b)) : Valid n a := (valid_append.1 h).1

theorem Valid.right {n : Nat} {a b : List Nat} (h : Valid n (a ++ b)) : Valid n b := (valid_append.1 h).2.1

theorem Valid.disjoint {n : Nat} {a b : List Nat} (h : Valid n (a ++ b)) : ∀ i ∈ a, i ∉ b :=
  (valid_append.1 h).2.2

theorem Valid.height_le {n : Nat} {t : T α β} (hv : Valid n t.slots) : t.height ≤ n :=
  T.height_le_of_nodup_range hv.nodup hv.range

/-- The memories `f'` and `f` are equal off the footprint `X`. -/
def Agree (X : List Nat) (f' f : Nat → Rec α β) : Prop := ∀ j, j ∉ X → f' j = f j

theorem Agree.refl (X : List Nat) (f : Nat → Rec α β) : Agree X f f := fun _ _ => rfl

theorem Agree.trans {X : List Nat} {f g h : Nat → Rec α β} (a : Agree X h g) (b : Agree X g f) :
    Agree X h f := fun j hj => (a j hj).trans (b j hj)

theorem Agree.mono {X Y : List Nat} {f' f : Nat → Rec α β} (a : Agree X f' f) (s : ∀ j ∈ X, j ∈ Y) :
    Agree Y f' f := fun j hj => a j (fun h => hj (s j h))

theorem agree_upd {X : List Nat} {i : Nat} (f : Nat → Rec α β) (r : Rec α β) (h : i ∈ X) :
    Agree X (upd f i r) f := fun _ hj => upd_ne _ _ (fun e => hj (e ▸ h))

/-- Subscript `₁`, here and in `Rep.agree₁`, `RepCtx.agree₁`: the footprint is the singleton `[i]`. -/
theorem Agree.at₁ {i j : Nat} {f' f : Nat → Rec α β} (a : Agree [i] f' f) (h : j ≠ i) : f' j = f j :=
  a j (fun hm => h (List.mem_singleton.1 hm))

theorem Agree.mono₁ {i : Nat} {Y : List Nat} {f' f : Nat → Rec α β} (a : Agree [i] f' f) (h : i ∈ Y) :
    Agree Y f' f := a.mono fun _ hj => List.mem_singleton.1 hj ▸ h

end Stevia
