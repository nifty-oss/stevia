/-
  Stevia.Proofs.GenTreeOps — translated tree source = literal model (see `GenTreeBal`): `insert` and `remove`.  In front
  of the two namespaces what the two `remove` bridges share and what mentions no translated function: the literal
  `remove` laid out along the tests of the source.
-/
import Stevia.Generated.Avl32Ops
import Stevia.Generated.Avl8Ops
import Stevia.Proofs.GenTreeBal
import Stevia.Proofs.GenTreeAlloc
import Stevia.Proofs.GenTreeQuery

namespace Stevia
open Imp
variable {α β : Type} [LinOrd α]

namespace Imp

/-- `Imp.remove` with its termination condition, cut where the source branches: the translated `remove` is compared
    with this arm by arm. -/
theorem some_remove_unfold (d : Rec α β) (m : TreeImage α β) (key : α) :
    (if removeTerm d m key then some (Imp.remove d m key) else none) =
      if m.hdr.root = 0 then some (m, none)
      else if findT d m key (m.recs.length + 1) m.hdr.root = true then
        match removeDescend d m key (m.recs.length + 1) m.hdr.root [(none, none, m.hdr.root)] with
        | (ni, path) =>
          if ni = 0 then some (m, none)
          else if (rd d m ni).left ≠ 0 ∧ (rd d m ni).right ≠ 0 then
            if leftT d m (m.recs.length + 1) (rd d m ni).right = true then
              some (removeFinish d ni (spliceTwo d m path (rd d m ni).left (rd d m ni).right))
            else none
          else some (removeFinish d ni (spliceChild d m path (selChild (rd d m ni).left (rd d m ni).right)))
      else none := by
  rw [remove_unfold, removeTerm, removeT]
  generalize removeDescend d m key (m.recs.length + 1) m.hdr.root [(none, none, m.hdr.root)] = dr
  obtain ⟨ni, path⟩ := dr
  by_cases hroot : m.hdr.root = 0
  · simp only [hroot, if_true]
  · by_cases hT : findT d m key (m.recs.length + 1) m.hdr.root = true
    · simp only [hroot, hT, if_false, if_true, Bool.true_and]
      by_cases h0 : ni = 0
      · simp only [h0, if_true]
      · simp only [h0, if_false]
        by_cases h2 : (rd d m ni).left ≠ 0 ∧ (rd d m ni).right ≠ 0
        · simp only [if_pos h2]
        · simp only [if_neg h2, if_true]
    · simp only [hroot, hT, if_false, Bool.false_and, Bool.false_eq_true]

end Imp

namespace Gen32

theorem insert_eq (d : Rec α β) (m : TreeImage α β) (key : α) (value : β) :
    insert d m key value = if m.hdr.root = 0 ∨ Imp.insertT d m key (m.recs.length + 1) m.hdr.root = true
      then Imp.insertO cfgU32 d m key value else none := by
  unfold insert Imp.insertO
  simp only [forIn, is_full_eq, add_eq, update_child_eq, rebalance_eq, List.nil_append]
  by_cases hroot : m.hdr.root = 0
  · simp only [hroot, true_or, if_true]
    by_cases hfull : isFull m = true
    · simp only [hfull, if_true]; rfl
    · simp only [hfull]
      cases hadd : Imp.add cfgU32 d m key value <;> rfl
  · simp only [hroot, false_or, if_false]
    generalize m.recs.length + 1 = fuel
    generalize m.hdr.root = ref
    generalize [((none : Option Nat), (none : Option Bool), ref)] = path
    induction fuel generalizing ref path with
    | zero => rfl
    | succ n ih =>
      simp only [Fuel.forIn, insertDescend, Imp.insertT]
      obtain ⟨_, e⟩ | ⟨_, e⟩ := Decidable.verdict (key < (rd d m ref).key) <;> rw [e]
      · obtain ⟨_, e⟩ | ⟨_, e⟩ := Decidable.verdict ((rd d m ref).left = 0) <;> rw [e]
        · cases hfull : isFull m
          · cases hadd : Imp.add cfgU32 d m key value <;> rfl
          · rfl
        · exact ih _ _
      · obtain ⟨_, e⟩ | ⟨_, e⟩ := Decidable.verdict ((rd d m ref).key < key) <;> rw [e]
        · obtain ⟨_, e⟩ | ⟨_, e⟩ := Decidable.verdict ((rd d m ref).right = 0) <;> rw [e]
          · cases hfull : isFull m
            · cases hadd : Imp.add cfgU32 d m key value <;> rfl
            · rfl
          · exact ih _ _
        · rfl

theorem remove_eq (d : Rec α β) (m : TreeImage α β) (key : α) :
    remove d m key = if Imp.removeTerm d m key then some (Imp.remove d m key) else none := by
  -- No `simp` on the translated side. `do` notation turns `if c then m := f m` followed by the rest into a join point
  -- `have jp := fun m => rest; if c then jp (f m) else jp m`; `simp` ζ-inlines it, `remove` has seven in a row, and
  -- every later step would walk 2^7 copies of the continuation. Instead: `rw` with equations of functions, steps that
  -- unify with the head only (the unifier unfolds no more `have`s than it needs), and `rfl`, which evaluates one path.
  rw [some_remove_unfold]
  unfold remove
  rw [update_child_fun, rebalance_fun, remove_node_fun]
  refine ite_congr rfl (fun _ => rfl) (fun _ => ?_)
  -- the descent loop: `n` iterations from `(node, path, exit)` reach what the literal descent reaches, and the loop has
  -- left by its own test iff `findT`; the side goal is the one-step unfolding
  refine (Option.bind_eq_of_eq_some (Fuel.forIn_eq_of_opt _
    (fun n s => ((removeDescend d m key n s.1 s.2.1).1, (removeDescend d m key n s.1 s.2.1).2,
      findT d m key n s.1 || s.2.2))
    (fun _ => rfl) ?_ (m.recs.length + 1) (m.hdr.root, [(none, none, m.hdr.root)], false)) _).trans ?_
  · intro n ⟨node, path, ex⟩
    simp only [removeDescend, findT]
    obtain ⟨_, e⟩ | ⟨_, e⟩ := Decidable.verdict (node = 0) <;> rw [e]
    · rfl
    obtain ⟨_, e⟩ | ⟨_, e⟩ := Decidable.verdict (key < (rd d m node).key) <;> rw [e]
    · rfl
    obtain ⟨_, e⟩ | ⟨_, e⟩ := Decidable.verdict ((rd d m node).key < key) <;> rw [e] <;> rfl
  rw [Bool.or_false]
  refine (Fuel.exit_eq _ _).trans (ite_congr rfl (fun _ => ?_) (fun _ => rfl))
  generalize removeDescend d m key (m.recs.length + 1) m.hdr.root [(none, none, m.hdr.root)] = dr
  obtain ⟨ni, path⟩ := dr
  refine ite_congr rfl (fun _ => rfl) (fun h0 => ?_)
  generalize (rd d m ni).left = left
  generalize (rd d m ni).right = right
  -- `remove_node` tests its index for 0: β-reduce its equation, then decide the test
  dsimp -zeta only
  rw [Decidable.eq_isFalse h0]
  -- what follows the splice (root word, `rebalance`, `remove_node`) is one join point, the same closed function under
  -- every branch: name it and say once what it computes; the leaves then compare images and paths only
  generalize hk : (fun (_ : Unit) (m' : TreeImage α β) (p : List Ancestor) (r : Nat) =>
    (_ : Option (TreeImage α β × Option β))) = k
  have hk' : ∀ m' p r, k () m' p r = some (removeFinish d ni (m', p, r)) := by
    subst hk
    intro m' p r
    unfold removeFinish
    show (if _ then _ else _) = _
    obtain ⟨_, e⟩ | ⟨_, e⟩ := Decidable.verdict (ni = m'.hdr.root) <;> rw [e] <;> rfl
  clear hk
  -- from here on straight-line code on both sides; once every test computes — by cases on the data, the two tests
  -- between `Nat` variables by their verdicts — both sides evaluate
  obtain _ | left := left <;> obtain _ | right := right
  case succ.succ =>
    show _ = if leftT d m (m.recs.length + 1) (right + 1) = true then _ else none
    refine (Option.bind_eq_of_eq_some (Fuel.forIn_eq_of_opt _
      (fun n s => ((leftmostWalk d m n s.1 s.2.1 s.2.2.1).1, (leftmostWalk d m n s.1 s.2.1 s.2.2.1).2.1,
        (leftmostWalk d m n s.1 s.2.1 s.2.2.1).2.2, leftT d m n s.1 || s.2.2.2))
      (fun _ => rfl) ?_ (m.recs.length + 1) (right + 1, 0, [], false)) _).trans ?_
    · intro n ⟨lm, par, inner, ex⟩
      simp only [leftmostWalk, leftT]
      obtain ⟨_, e⟩ | ⟨_, e⟩ := Decidable.verdict ((rd d m lm).left = 0) <;> rw [e] <;> rfl
    rw [Bool.or_false]
    refine (Fuel.exit_eq _ _).trans (ite_congr rfl (fun _ => ?_) (fun _ => rfl))
    unfold spliceTwo
    generalize leftmostWalk d m (m.recs.length + 1) (right + 1) 0 [] = w
    obtain ⟨lm, par, inner⟩ := w
    conv => rhs; simp only [relinkParent]
    generalize path.getLast? = last
    dsimp -zeta only
    obtain ⟨_, e⟩ | ⟨_, e⟩ := Decidable.verdict (par = 0) <;> rw [e]
    all_goals obtain ⟨_, e⟩ | ⟨_, e⟩ := Decidable.verdict (right + 1 = lm) <;> rw [e]
    all_goals cases inner <;> rcases last with _ | ⟨_ | p, b, c⟩ <;> exact hk' _ _ _
  all_goals
    conv => rhs; simp only [spliceChild, selChild]
    generalize path.getLast? = last
    rcases last with _ | ⟨_ | p, b, c⟩ <;> exact hk' _ _ _

end Gen32

namespace Gen8

theorem insert_eq (d : Rec α β) (m : TreeImage α β) (key : α) (value : β) :
    insert d m key value = if m.hdr.root = 0 ∨ Imp.insertT d m key (m.recs.length + 1) m.hdr.root = true
      then Imp.insertO cfgU8 d m key value else none := by
  unfold insert Imp.insertO
  simp only [forIn, is_full_eq, add_eq, update_child_eq, rebalance_eq, List.nil_append]
  by_cases hroot : m.hdr.root = 0
  · simp only [hroot, true_or, if_true]
    by_cases hfull : isFull m = true
    · simp only [hfull, if_true]; rfl
    · simp only [hfull]
      cases hadd : Imp.add cfgU8 d m key value <;> rfl
  · simp only [hroot, false_or, if_false]
    generalize m.recs.length + 1 = fuel
    generalize m.hdr.root = ref
    generalize [((none : Option Nat), (none : Option Bool), ref)] = path
    induction fuel generalizing ref path with
    | zero => rfl
    | succ n ih =>
      simp only [Fuel.forIn, insertDescend, Imp.insertT]
      obtain ⟨_, e⟩ | ⟨_, e⟩ := Decidable.verdict (key < (rd d m ref).key) <;> rw [e]
      · obtain ⟨_, e⟩ | ⟨_, e⟩ := Decidable.verdict ((rd d m ref).left = 0) <;> rw [e]
        · cases hfull : isFull m
          · cases hadd : Imp.add cfgU8 d m key value <;> rfl
          · rfl
        · exact ih _ _
      · obtain ⟨_, e⟩ | ⟨_, e⟩ := Decidable.verdict ((rd d m ref).key < key) <;> rw [e]
        · obtain ⟨_, e⟩ | ⟨_, e⟩ := Decidable.verdict ((rd d m ref).right = 0) <;> rw [e]
          · cases hfull : isFull m
            · cases hadd : Imp.add cfgU8 d m key value <;> rfl
            · rfl
          · exact ih _ _
        · rfl

theorem remove_eq (d : Rec α β) (m : TreeImage α β) (key : α) :
    remove d m key = if Imp.removeTerm d m key then some (Imp.remove d m key) else none := by
  rw [some_remove_unfold]
  unfold remove
  rw [update_child_fun, rebalance_fun, remove_node_fun]
  refine ite_congr rfl (fun _ => rfl) (fun _ => ?_)
  refine (Option.bind_eq_of_eq_some (Fuel.forIn_eq_of_opt _
    (fun n s => ((removeDescend d m key n s.1 s.2.1).1, (removeDescend d m key n s.1 s.2.1).2,
      findT d m key n s.1 || s.2.2))
    (fun _ => rfl) ?_ (m.recs.length + 1) (m.hdr.root, [(none, none, m.hdr.root)], false)) _).trans ?_
  · intro n ⟨node, path, ex⟩
    simp only [removeDescend, findT]
    obtain ⟨_, e⟩ | ⟨_, e⟩ := Decidable.verdict (node = 0) <;> rw [e]
    · rfl
    obtain ⟨_, e⟩ | ⟨_, e⟩ := Decidable.verdict (key < (rd d m node).key) <;> rw [e]
    · rfl
    obtain ⟨_, e⟩ | ⟨_, e⟩ := Decidable.verdict ((rd d m node).key < key) <;> rw [e] <;> rfl
  rw [Bool.or_false]
  refine (Fuel.exit_eq _ _).trans (ite_congr rfl (fun _ => ?_) (fun _ => rfl))
  generalize removeDescend d m key (m.recs.length + 1) m.hdr.root [(none, none, m.hdr.root)] = dr
  obtain ⟨ni, path⟩ := dr
  refine ite_congr rfl (fun _ => rfl) (fun h0 => ?_)
  generalize (rd d m ni).left = left
  generalize (rd d m ni).right = right
  dsimp -zeta only
  rw [Decidable.eq_isFalse h0]
  generalize hk : (fun (_ : Unit) (m' : TreeImage α β) (p : List Ancestor) (r : Nat) =>
    (_ : Option (TreeImage α β × Option β))) = k
  have hk' : ∀ m' p r, k () m' p r = some (removeFinish d ni (m', p, r)) := by
    subst hk
    intro m' p r
    unfold removeFinish
    show (if _ then _ else _) = _
    obtain ⟨_, e⟩ | ⟨_, e⟩ := Decidable.verdict (ni = m'.hdr.root) <;> rw [e] <;> rfl
  clear hk
  obtain _ | left := left <;> obtain _ | right := right
  case succ.succ =>
    show _ = if leftT d m (m.recs.length + 1) (right + 1) = true then _ else none
    refine (Option.bind_eq_of_eq_some (Fuel.forIn_eq_of_opt _
      (fun n s => ((leftmostWalk d m n s.1 s.2.1 s.2.2.1).1, (leftmostWalk d m n s.1 s.2.1 s.2.2.1).2.1,
        (leftmostWalk d m n s.1 s.2.1 s.2.2.1).2.2, leftT d m n s.1 || s.2.2.2))
      (fun _ => rfl) ?_ (m.recs.length + 1) (right + 1, 0, [], false)) _).trans ?_
    · intro n ⟨lm, par, inner, ex⟩
      simp only [leftmostWalk, leftT]
      obtain ⟨_, e⟩ | ⟨_, e⟩ := Decidable.verdict ((rd d m lm).left = 0) <;> rw [e] <;> rfl
    rw [Bool.or_false]
    refine (Fuel.exit_eq _ _).trans (ite_congr rfl (fun _ => ?_) (fun _ => rfl))
    unfold spliceTwo
    generalize leftmostWalk d m (m.recs.length + 1) (right + 1) 0 [] = w
    obtain ⟨lm, par, inner⟩ := w
    conv => rhs; simp only [relinkParent]
    generalize path.getLast? = last
    dsimp -zeta only
    obtain ⟨_, e⟩ | ⟨_, e⟩ := Decidable.verdict (par = 0) <;> rw [e]
    all_goals obtain ⟨_, e⟩ | ⟨_, e⟩ := Decidable.verdict (right + 1 = lm) <;> rw [e]
    all_goals cases inner <;> rcases last with _ | ⟨_ | p, b, c⟩ <;> exact hk' _ _ _
  all_goals
    conv => rhs; simp only [spliceChild, selChild]
    generalize path.getLast? = last
    rcases last with _ | ⟨_ | p, b, c⟩ <;> exact hk' _ _ _

end Gen8

end Stevia
