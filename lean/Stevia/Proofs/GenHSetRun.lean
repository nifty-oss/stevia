/-
  Stevia.Proofs.GenHSetRun — simulation of the functional hash-set model by the translated source (`hash_set.rs`,
  `Stevia.GenH.*`) over whole histories.
-/
import Stevia.Proofs.GenHSet
import Stevia.Proofs.HashSetImpTerm

namespace Stevia
variable {γ : Type} [DecidableEq γ]

namespace GenH

/-- One operation of the translated source on an image, with its answer. -/
def stepImg (hash : γ → Nat) (d : HRec γ) (m : HImage γ) : SetOp γ → Option (HImage γ × SetOut)
  | .insert v => (insert hash d m v).map fun r => (r.1, .bool r.2)
  | .remove v => (remove hash d m v).map fun r => (r.1, .bool r.2)
  | .contains v => (contains hash d m v).map fun r => (m, .bool r)
  | .size => some (m, .nat (size hash d m))
  | .isEmpty => some (m, .bool (is_empty hash d m))
  | .isFull => some (m, .bool (is_full hash d m))

def runImg (hash : γ → Nat) (d : HRec γ) : HImage γ → List (SetOp γ) → Option (HImage γ × List SetOut)
  | m, [] => some (m, [])
  | m, op :: ops => (stepImg hash d m op).bind fun r => (runImg hash d r.1 ops).map fun q => (q.1, r.2 :: q.2)

theorem insert_refines (hash : γ → Nat) (vd : γ) (s s' : HSet γ) (h : s.Inv hash) (v : γ) (r : Bool)
    (hi : s.insert hash v = .ok (s', r)) :
    insert hash (HImp.dflt vd) (s.image vd) v = some (s'.image vd, r) := by
  rw [insert_eq, HImp.insertO_eq hash vd s s' h v r hi, HSet.image_recs_length, HSet.image_hdr_size,
    HSet.image_hdr_cap]
  by_cases hfull : s.size = s.cap
  · simp only [hfull, true_or, if_true]
  · simp only [HImp.scanT_image_cap hash vd s h v (Nat.ne_zero_of_lt (h.lt_cap hfull)), or_true, if_true]

theorem remove_refines (hash : γ → Nat) (vd : γ) (s s' : HSet γ) (h : s.Inv hash) (v : γ) (r : Bool)
    (hr : s.remove hash v = .ok (s', r)) :
    remove hash (HImp.dflt vd) (s.image vd) v = some (s'.image vd, r) := by
  rw [remove_eq, HImp.remove_eq hash vd s s' h v r hr, HSet.image_recs_length, HSet.image_hdr_size,
    if_pos (HImp.scanT_image hash vd s h v)]

theorem contains_refines (hash : γ → Nat) (vd : γ) (s : HSet γ) (h : s.Inv hash) (v : γ) :
    contains hash (HImp.dflt vd) (s.image vd) v = some (decide (v ∈ s.members)) := by
  have he := HImp.contains_eq hash vd s h v
  rw [HSet.contains_spec h v, Except.ok.injEq] at he
  rw [contains_eq, HSet.image_recs_length, HSet.image_hdr_size, if_pos (HImp.scanT_image hash vd s h v), he]

theorem step_refines (hash : γ → Nat) (vd : γ) (s : HSet γ) (h : s.Inv hash) (op : SetOp γ) :
    ∃ s' o, s.setStep hash op = .ok (s', o) ∧ s'.Inv hash ∧
      stepImg hash (HImp.dflt vd) (s.image vd) op = some (s'.image vd, o) := by
  cases op with
  | insert v =>
    obtain ⟨s', r, hi, hinv⟩ := h.insert v
    exact ⟨s', .bool r, by simp [HSet.setStep, hi, Except.map], hinv,
      by simp [stepImg, insert_refines hash vd s s' h v r hi]⟩
  | remove v =>
    obtain ⟨s', r, hr, hinv⟩ := h.remove v
    exact ⟨s', .bool r, by simp [HSet.setStep, hr, Except.map], hinv,
      by simp [stepImg, remove_refines hash vd s s' h v r hr]⟩
  | contains v =>
    exact ⟨s, .bool (decide (v ∈ s.members)), by simp [HSet.setStep, HSet.contains_spec h v, Except.map], h,
      by simp [stepImg, contains_refines hash vd s h v]⟩
  | size => exact ⟨s, _, rfl, h, rfl⟩
  | isEmpty =>
    refine ⟨s, _, rfl, h, ?_⟩
    simp only [stepImg, is_empty_eq, HSet.image_hdr_size, HSet.isEmpty]
    by_cases h0 : s.size = 0 <;> simp [h0]
  | isFull => exact ⟨s, _, rfl, h, rfl⟩

/-- **Whole histories**: whatever the model answers over a history from a well-formed set, the translated source run
    on the layout answers the same, step by step, and ends in the layout of the model's final state. -/
theorem run_refines (hash : γ → Nat) (vd : γ) (s : HSet γ) (h : s.Inv hash) (ops : List (SetOp γ)) :
    ∃ s' outs, s.setRun hash ops = .ok (s', outs) ∧ s'.Inv hash ∧
      runImg hash (HImp.dflt vd) (s.image vd) ops = some (s'.image vd, outs) := by
  induction ops generalizing s with
  | nil => exact ⟨s, [], rfl, h, rfl⟩
  | cons op ops ih =>
    obtain ⟨s1, o, hstep, hinv, himg⟩ := step_refines hash vd s h op
    obtain ⟨s', outs, hrun, hinv', himg'⟩ := ih s1 hinv
    refine ⟨s', o :: outs, ?_, hinv', ?_⟩
    · simp only [HSet.setRun, hstep, hrun]
    · simp only [runImg, himg, Option.bind_some, himg', Option.map_some]

omit [DecidableEq γ] in
theorem initialize_zero (hash : γ → Nat) (vd : γ) (n cap : Nat) :
    initialize_set hash (HImp.dflt vd) ((HSet.zero n : HSet γ).image vd) cap
      = (HSet.init n cap : HSet γ).image vd := by
  simp only [initialize_set, alloc_initialize, Id.run, pure, HSet.image, HSet.hdr, HSet.init,
    HSet.zero, HSet.flhReg, HSet.slots]
  congr 1
  -- the records, equal one by one; the header words, by computing
  all_goals first
    | (apply List.map_congr_left; intro j _; rw [HSet.recAt_eq, HSet.recAt_eq, HSet.slotReg_congr rfl rfl])
    | simp

end GenH
end Stevia
