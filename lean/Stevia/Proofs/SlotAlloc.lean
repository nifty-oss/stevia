/-
  Stevia.Proofs.SlotAlloc — the slot allocator shared by the trees and the hash set, as facts about lists:
  `live` are the slots in use, `free` the released ones (LIFO), `seq` the cursor.
-/
import Stevia.Model.TreeLayout

namespace Stevia

theorem freeNext_cons_ne {term a k : Nat} {l : List Nat} (hk : k ≠ a) :
    freeNext term (a :: l) k = freeNext term l k := by
  cases l <;> simp [freeNext, hk]

theorem freeNext_head {term a : Nat} {rest : List Nat} :
    freeNext term (a :: rest) a = some (rest.head?.getD term) := by
  cases rest <;> simp [freeNext]

theorem freeNext_none {term : Nat} {fl : List Nat} {i : Nat} (h : i ∉ fl) : freeNext term fl i = none := by
  induction fl with
  | nil => rfl
  | cons a rest ih =>
    rw [List.mem_cons, not_or] at h
    rw [freeNext_cons_ne h.1, ih h.2]

theorem freeNext_suffix {term : Nat} (pre : List Nat) (a : Nat) (rest : List Nat)
    (hnd : (pre ++ a :: rest).Nodup) :
    freeNext term (pre ++ a :: rest) a = some (rest.head?.getD term) := by
  induction pre with
  | nil => exact freeNext_head
  | cons p pre ih =>
    rw [List.cons_append, List.nodup_cons] at hnd
    rw [List.cons_append, freeNext_cons_ne (fun e => hnd.1 (by simp [e]))]
    exact ih hnd.2

theorem freeNext_mem {term : Nat} {fl : List Nat} {i nxt : Nat} (h : freeNext term fl i = some nxt) :
    nxt ∈ fl ∨ nxt = term := by
  induction fl with
  | nil => cases h
  | cons a rest ih =>
    by_cases hi : i = a
    · rw [hi, freeNext_head] at h
      cases rest with
      | nil => exact .inr (Option.some.inj h).symm
      | cons b rest => exact .inl (by simp [← Option.some.inj h])
    · rw [freeNext_cons_ne hi] at h
      exact (ih h).imp (List.mem_cons_of_mem _) id

/-- The head register of the free-list thread, like every `freeNext` (`freeNext_mem`), is a released slot or the
    terminator. -/
theorem head?_getD_mem (fl : List Nat) (term : Nat) : fl.head?.getD term ∈ fl ∨ fl.head?.getD term = term := by
  cases fl with
  | nil => exact .inr rfl
  | cons i rest => exact .inl List.mem_cons_self

/-- `live` and `free` together are exactly the slots `1 .. seq - 1`, each once. -/
structure Slots.Ok (live free : List Nat) (seq : Nat) : Prop where
  nodup : (live ++ free).Nodup
  range : ∀ i ∈ live ++ free, 1 ≤ i ∧ i < seq
  count : (live ++ free).length + 1 = seq

/-- Allocation hands out `i` and leaves `free'`, `seq'`: the head of the free list is popped and the cursor stays, or
    the free list is empty and the cursor itself is handed out and advances. -/
def Slots.Alloc (free : List Nat) (seq i : Nat) (free' : List Nat) (seq' : Nat) : Prop :=
  (free = i :: free' ∧ seq' = seq) ∨ (free = [] ∧ free' = [] ∧ i = seq ∧ seq' = seq + 1)

theorem Slots.Alloc.head (free : List Nat) (seq : Nat) :
    Slots.Alloc free seq (free.head?.getD seq) free.tail (if free = [] then seq + 1 else seq) := by
  cases free with
  | nil => exact .inr ⟨rfl, rfl, rfl, rfl⟩
  | cons i rest => exact .inl ⟨rfl, rfl⟩

namespace Slots.Ok
variable {live live' free free' : List Nat} {seq seq' i : Nat}

theorem length (h : Ok live free seq) : live.length + free.length + 1 = seq := by
  rw [← List.length_append]; exact h.count

theorem perm (h : Ok live free seq) (p : live'.Perm live) : Ok live' free seq :=
  have p' : (live' ++ free).Perm (live ++ free) := p.append_right _
  ⟨p'.nodup_iff.2 h.nodup, fun i hi => h.range i (p'.mem_iff.1 hi), p'.length_eq ▸ h.count⟩

theorem release (h : Ok (i :: live) free seq) : Ok live (i :: free) seq :=
  have p : (live ++ i :: free).Perm (i :: live ++ free) := List.perm_middle
  ⟨p.nodup_iff.2 h.nodup, fun j hj => h.range j (p.mem_iff.1 hj), p.length_eq ▸ h.count⟩

theorem alloc (h : Ok live free seq) (ha : Slots.Alloc free seq i free' seq') : Ok (i :: live) free' seq' := by
  rcases ha with ⟨rfl, rfl⟩ | ⟨rfl, rfl, rfl, rfl⟩
  · have p : (live ++ i :: free').Perm (i :: live ++ free') := List.perm_middle
    exact ⟨p.nodup_iff.1 h.nodup, fun j hj => h.range j (p.mem_iff.2 hj), p.length_eq ▸ h.count⟩
  · -- the cursor `i` itself is handed out: it is `≥ 1` and no slot in use reaches it
    have hc : (live ++ []).length + 1 = i := h.count
    refine ⟨?_, fun j hj => ?_, congrArg Nat.succ hc⟩
    · rw [List.cons_append, List.nodup_cons]
      exact ⟨fun hm => Nat.lt_irrefl _ (h.range _ hm).2, h.nodup⟩
    · rcases List.mem_cons.1 hj with rfl | hj
      · exact ⟨hc ▸ Nat.le_add_left 1 _, Nat.lt_succ_self _⟩
      · exact ⟨(h.range j hj).1, Nat.lt_succ_of_lt (h.range j hj).2⟩

theorem alloc_seq_le (h : Ok live free seq) (ha : Slots.Alloc free seq i free' seq') {cap : Nat}
    (hs : seq ≤ cap + 1) (hl : live.length < cap) : seq' ≤ cap + 1 := by
  have := h.length
  rcases ha with ⟨_, rfl⟩ | ⟨rfl, _, _, rfl⟩
  · exact hs
  · simp only [List.length_nil] at this; omega

theorem alloc_fresh (h : Ok live free seq) (ha : Slots.Alloc free seq i free' seq') :
    1 ≤ i ∧ i < seq' ∧ i ∉ live :=
  have h' := h.alloc ha
  ⟨(h'.range i (by simp)).1, (h'.range i (by simp)).2, (List.nodup_cons.1 (List.nodup_append.1 h'.nodup).1).1⟩

end Slots.Ok

/-- `t`, `t'`: the terminator registers; they may differ only when the cursor moved, and then both lists are empty. -/
theorem Slots.Alloc.freeNext_ne {free free' : List Nat} {seq seq' i k t t' : Nat}
    (ha : Slots.Alloc free seq i free' seq') (ht : seq' = seq → t' = t) (hk : k ≠ i) :
    freeNext t' free' k = freeNext t free k := by
  rcases ha with ⟨rfl, hs⟩ | ⟨rfl, rfl, _, _⟩
  · rw [ht hs, freeNext_cons_ne hk]
  · rfl

/-- Pigeonhole: a duplicate-free list of naturals in `[1, n]` has at most `n` elements. -/
theorem length_le_of_nodup_range : ∀ (n : Nat) (l : List Nat), l.Nodup →
    (∀ i ∈ l, 1 ≤ i ∧ i ≤ n) → l.length ≤ n
  | 0, l, _, hr => by
    cases l with
    | nil => exact Nat.le_refl _
    | cons a l => exact absurd (Nat.le_trans (hr a (by simp)).1 (hr a (by simp)).2) (by decide)
  | n + 1, l, hnd, hr => by
    -- without `n + 1` the list has its elements in `[1, n]`
    have hle : ∀ i ∈ l, i ≠ n + 1 → 1 ≤ i ∧ i ≤ n := fun i hi hne =>
      ⟨(hr i hi).1, Nat.le_of_lt_succ (Nat.lt_of_le_of_ne (hr i hi).2 hne)⟩
    by_cases hm : n + 1 ∈ l
    · have h1 := length_le_of_nodup_range n (l.erase (n + 1)) (hnd.erase _) (fun i hi =>
        hle i ((hnd.mem_erase_iff).1 hi).2 ((hnd.mem_erase_iff).1 hi).1)
      rw [List.length_erase_of_mem hm] at h1
      exact Nat.le_add_of_sub_le h1
    · exact Nat.le_succ_of_le (length_le_of_nodup_range n l hnd (fun i hi =>
        hle i hi (fun e => hm (e ▸ hi))))

end Stevia
