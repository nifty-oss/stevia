/-
  Stevia.Proofs.GenTreeBal — the first of five modules (`GenTreeBal`, `GenTreeAlloc`, `GenTreeQuery`, `GenTreeOpen`,
  `GenTreeOps`) in which the translator's output for `avl_tree.rs` (`Stevia.Gen32.*`) and for `u8_avl_tree.rs`
  (`Stevia.Gen8.*`) is proved equal to the literal model `Stevia.Imp.*` at the 32-bit resp. 8-bit configuration.
  In each the two namespaces hold the same statements with the same scripts and are kept in step by hand; they differ
  in the namespace and the configuration only.  The comments are at the `Gen32` half.
  Here: height registers, child links, balance factor, rotations and the bottom-up `rebalance` loop.
-/
import Stevia.Generated.Avl32Bal
import Stevia.Generated.Avl8Bal
import Stevia.Proofs.GenLemmas

namespace Stevia
open Imp
variable {α β : Type}
-- the `simp` sets name more than the present source needs: what harmless rewrites of the source bring in
set_option linter.unusedSimpArgs false

namespace Gen32

theorem update_height_eq (d : Rec α β) (m : TreeImage α β) (i : Nat) :
    update_height d m i = Imp.updateHeight d m i := by
  simp only [update_height, Imp.updateHeight, Id.run, pure, bind]
  -- closed at this point for the source as it stands; the alternatives are for the same computation split over
  -- extracted helpers (`@[simp]`, emitted by the translator) or with its branches swapped: compare by cases
  first
  | done
  | (split <;> rfl)
  | (repeat' split
     all_goals (first | rfl | simp_all | omega))

theorem update_child_eq (d : Rec α β) (m : TreeImage α β) (p : Nat) (b : Bool) (ch : Nat) :
    update_child d m p b ch = Imp.updateChild d m p b ch := by
  simp only [update_child, Imp.updateChild, Id.run, pure, bind, update_height_eq]
  first
  | done
  | (cases b <;> rfl)

theorem balance_factor_eq (d : Rec α β) (m : TreeImage α β) (l r : Nat) :
    balance_factor d m l r = Imp.balanceFactor d m l r := by
  first
  | rfl
  | (simp [balance_factor, Imp.balanceFactor, Id.run]
     repeat' split
     all_goals (first | rfl | omega | (simp only [pure, Pure.pure] at *; omega) | simp_all))

theorem left_rotate_eq (d : Rec α β) (m : TreeImage α β) (i : Nat) :
    left_rotate d m i = Imp.leftRotate d m i := by
  simp only [left_rotate, Imp.leftRotate, Id.run, pure, bind, update_child_eq]

theorem right_rotate_eq (d : Rec α β) (m : TreeImage α β) (i : Nat) :
    right_rotate d m i = Imp.rightRotate d m i := by
  simp only [right_rotate, Imp.rightRotate, Id.run, pure, bind, update_child_eq]

theorem rebalance_eq (d : Rec α β) (m : TreeImage α β) (path : List Ancestor) :
    rebalance d m path = Imp.rebalance d m path := by
  unfold rebalance Imp.rebalance
  simp only [Id.run, bind, pure]
  rw [forIn_eq_foldl_of _ _ _ (Imp.rebalanceStep d)]
  · rfl
  · intro e m
    obtain ⟨parent, branch, child⟩ := e
    simp only [Imp.rebalanceStep, balance_factor_eq, left_rotate_eq, right_rotate_eq, update_child_eq, update_height_eq,
      gt_iff_lt]
    by_cases h1 : 1 < balanceFactor d m (rd d m child).left (rd d m child).right
    · by_cases h2 : balanceFactor d m (rd d m (rd d m child).left).left (rd d m (rd d m child).left).right < 0 <;>
        cases parent <;> simp [h1, h2, default, setRoot] <;> rfl
    · by_cases h3 : balanceFactor d m (rd d m child).left (rd d m child).right < -1
      · by_cases h4 : 0 < balanceFactor d m (rd d m (rd d m child).right).left (rd d m (rd d m child).right).right <;>
          cases parent <;> simp [h1, h3, h4, default, setRoot] <;> rfl
      · simp [h1, h3] <;> rfl

/-- `update_child` and `rebalance` once more as equations of functions: `rw` with a constant reaches calls under the
    binders of a `do` block. -/
theorem update_child_fun : @update_child α β = Imp.updateChild := by
  funext d m p b ch; exact update_child_eq d m p b ch

theorem rebalance_fun : @rebalance α β = Imp.rebalance := by
  funext d m path; exact rebalance_eq d m path

end Gen32

namespace Gen8

theorem update_height_eq (d : Rec α β) (m : TreeImage α β) (i : Nat) :
    update_height d m i = Imp.updateHeight d m i := by
  simp only [update_height, Imp.updateHeight, Id.run, pure, bind]
  first
  | done
  | (split <;> rfl)
  | (repeat' split
     all_goals (first | rfl | simp_all | omega))

theorem update_child_eq (d : Rec α β) (m : TreeImage α β) (p : Nat) (b : Bool) (ch : Nat) :
    update_child d m p b ch = Imp.updateChild d m p b ch := by
  simp only [update_child, Imp.updateChild, Id.run, pure, bind, update_height_eq]
  first
  | done
  | (cases b <;> rfl)

theorem balance_factor_eq (d : Rec α β) (m : TreeImage α β) (l r : Nat) :
    balance_factor d m l r = Imp.balanceFactor d m l r := by
  first
  | rfl
  | (simp [balance_factor, Imp.balanceFactor, Id.run]
     repeat' split
     all_goals (first | rfl | omega | (simp only [pure, Pure.pure] at *; omega) | simp_all))

theorem left_rotate_eq (d : Rec α β) (m : TreeImage α β) (i : Nat) :
    left_rotate d m i = Imp.leftRotate d m i := by
  simp only [left_rotate, Imp.leftRotate, Id.run, pure, bind, update_child_eq]

theorem right_rotate_eq (d : Rec α β) (m : TreeImage α β) (i : Nat) :
    right_rotate d m i = Imp.rightRotate d m i := by
  simp only [right_rotate, Imp.rightRotate, Id.run, pure, bind, update_child_eq]

theorem rebalance_eq (d : Rec α β) (m : TreeImage α β) (path : List Ancestor) :
    rebalance d m path = Imp.rebalance d m path := by
  unfold rebalance Imp.rebalance
  simp only [Id.run, bind, pure]
  rw [forIn_eq_foldl_of _ _ _ (Imp.rebalanceStep d)]
  · rfl
  · intro e m
    obtain ⟨parent, branch, child⟩ := e
    simp only [Imp.rebalanceStep, balance_factor_eq, left_rotate_eq, right_rotate_eq, update_child_eq, update_height_eq,
      gt_iff_lt]
    by_cases h1 : 1 < balanceFactor d m (rd d m child).left (rd d m child).right
    · by_cases h2 : balanceFactor d m (rd d m (rd d m child).left).left (rd d m (rd d m child).left).right < 0 <;>
        cases parent <;> simp [h1, h2, default, setRoot] <;> rfl
    · by_cases h3 : balanceFactor d m (rd d m child).left (rd d m child).right < -1
      · by_cases h4 : 0 < balanceFactor d m (rd d m (rd d m child).right).left (rd d m (rd d m child).right).right <;>
          cases parent <;> simp [h1, h3, h4, default, setRoot] <;> rfl
      · simp [h1, h3] <;> rfl

theorem update_child_fun : @update_child α β = Imp.updateChild := by
  funext d m p b ch; exact update_child_eq d m p b ch

theorem rebalance_fun : @rebalance α β = Imp.rebalance := by
  funext d m path; exact rebalance_eq d m path

end Gen8

end Stevia
