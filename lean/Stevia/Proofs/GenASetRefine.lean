/-
  Stevia.Proofs.GenASetRefine — the translated `array_set.rs` on well-formed sets: each operation answers `some` of
  what the model answers, and so does every history of element-indexed operations.  One step is the model's step
  (`stepImg_eq`, from the bridge equations of GenASet).
-/
import Stevia.Proofs.GenASet
import Stevia.Proofs.ArraySetState

namespace Stevia
namespace GenA
variable {α κ : Type} [LinOrd κ] {key : α → κ} {P : Nat} {s : ASet α}

/-- The translated `insert` on a well-formed set answers `some` of what the model answers. -/
theorem insert_refines (h : s.Inv key P) (x : α) :
    ∃ s' r, insert key P s x = some (s', r) ∧ s.insert key P x = .ok (s', r) ∧ s'.Inv key P ∧ s'.slots = s.slots := by
  obtain ⟨s', r, h1, h2, h3⟩ := h.insert x
  exact ⟨s', r, by rw [insert_eq key P s h.len_le, h1]; rfl, h1, h2, h3⟩

theorem take_refines (h : s.Inv key P) (x : α) :
    ∃ s' r, take key P s x = some (s', r) ∧ s.take key (key x) = .ok (s', r) ∧ s'.Inv key P ∧ s'.slots = s.slots := by
  obtain ⟨s', r, h1, h2, h3⟩ := h.take (key x)
  exact ⟨s', r, by rw [take_eq key P s h.len_le, h1]; rfl, h1, h2, h3⟩

theorem get_refines (h : s.Inv key P) (x : α) :
    get key P s x = some (findK key (key x) s.view) ∧
    contains key P s x = some (findK key (key x) s.view).isSome := by
  rw [contains_eq key P s h.len_le, get_eq key P s h.len_le, ASet.contains, ASet.get_spec h (key x)]
  exact ⟨rfl, rfl⟩

/-- Operations as the Rust API takes them: by element (lookups compare through `key`). -/
inductive EOp (α : Type) where
  | insert (x : α)
  | take (x : α)
  | get (x : α)
  | contains (x : α)
  | len

def EOp.toAS (key : α → κ) : EOp α → ASOp α κ
  | .insert x => .insert x
  | .take x => .take (key x)
  | .get x => .get (key x)
  | .contains x => .contains (key x)
  | .len => .len

/-- One operation of the translated source on a set, with its answer. -/
def stepImg (key : α → κ) (P : Nat) (m : ASet α) : EOp α → Option (ASet α × ASOut α)
  | .insert x => (insert key P m x).map fun r => (r.1, .bool r.2)
  | .take x => (take key P m x).map fun r => (r.1, .val r.2)
  | .get x => (get key P m x).map fun r => (m, .val r)
  | .contains x => (contains key P m x).map fun r => (m, .bool r)
  | .len => some (m, .nat (len key P m))

def runImg (key : α → κ) (P : Nat) : ASet α → List (EOp α) → Option (ASet α × List (ASOut α))
  | m, [] => some (m, [])
  | m, op :: ops => (stepImg key P m op).bind fun r => (runImg key P r.1 ops).map fun q => (q.1, r.2 :: q.2)

theorem stepImg_eq (key : α → κ) (P : Nat) (m : ASet α) (hle : m.len ≤ m.vals.length) (op : EOp α) :
    stepImg key P m op = (m.opStep key P (op.toAS key)).toOption := by
  cases op with
  | insert x =>
    simp only [stepImg, EOp.toAS, ASet.opStep, insert_eq key P m hle]
    cases m.insert key P x <;> rfl
  | take x =>
    simp only [stepImg, EOp.toAS, ASet.opStep, take_eq key P m hle]
    cases m.take key (key x) <;> rfl
  | get x =>
    simp only [stepImg, EOp.toAS, ASet.opStep, get_eq key P m hle]
    cases m.get key (key x) <;> rfl
  | contains x =>
    simp only [stepImg, EOp.toAS, ASet.opStep, contains_eq key P m hle]
    cases m.contains key (key x) <;> rfl
  | len =>
    rw [stepImg, len_eq key P m hle]
    rfl

-- Not through the three lemmas at the head of the file: `stepImg_eq` and `opStep_refines` cover all five
-- operations at once.
theorem step_refines (h : s.Inv key P) (op : EOp α) :
    ∃ s' o, s.opStep key P (op.toAS key) = .ok (s', o) ∧ s'.Inv key P ∧ stepImg key P s op = some (s', o) := by
  obtain ⟨s', hstep, hinv, _, _⟩ := ASet.opStep_refines h (op.toAS key)
  exact ⟨s', _, hstep, hinv, by rw [stepImg_eq key P s h.len_le, hstep]; rfl⟩

/-- **Whole histories**: over any history of element-indexed operations from a well-formed set (in particular from a
    zero-filled buffer) the translated source answers, step by step, `some` of what the model answers — no failed
    bounds check, no raw copy out of range, no loop that runs on — and ends in the model's final state. -/
theorem run_refines {key : α → κ} {P : Nat} {s : ASet α} (h : s.Inv key P) (ops : List (EOp α)) :
    ∃ s' outs, s.opRun key P (ops.map (EOp.toAS key)) = .ok (s', outs) ∧ s'.Inv key P ∧
      runImg key P s ops = some (s', outs) := by
  induction ops generalizing s with
  | nil => exact ⟨s, [], rfl, h, rfl⟩
  | cons op ops ih =>
    obtain ⟨s1, o, hstep, hinv, himg⟩ := step_refines h op
    obtain ⟨s', outs, hrun, hinv', himg'⟩ := ih hinv
    refine ⟨s', o :: outs, ?_, hinv', ?_⟩
    · simp only [List.map_cons, ASet.opRun, hstep, hrun]
    · simp only [runImg, himg, Option.bind_some, himg', Option.map_some]

end GenA
end Stevia
