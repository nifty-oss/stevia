/-
  Stevia.Proofs.ExecInv — the executable (Bool) well-formedness checks the driver evaluates on
  every decoded *real* state are exactly the `Prop` invariants the theorems are about.
-/
import Stevia.Proofs.TreeState
import Stevia.Proofs.HashSetState
import Stevia.Proofs.ArraySetState
import Stevia.Model.ArraySetLayout

namespace Stevia
variable {α β : Type}

/-- `T.sortedB` is the check for the trees' keys and for the array sets' view alike. -/
theorem T.sortedB_iff_ascK {κ : Type} [LinOrd κ] (l : List κ) : T.sortedB l = true ↔ AscK l := by
  induction l with
  | nil => simp [T.sortedB, AscK]
  | cons a rest ih =>
    cases rest with
    | nil => simp [T.sortedB, AscK]
    | cons b rest =>
      simp only [T.sortedB, Bool.and_eq_true, decide_eq_true_eq] at ih ⊢
      rw [ih]
      simp only [AscK, List.mem_cons, forall_eq_or_imp]
      constructor
      · rintro ⟨h1, h2, h3⟩
        exact ⟨⟨h1, fun e he => LinOrd.trans h1 (h2 e he)⟩, h2, h3⟩
      · rintro ⟨⟨h1, _⟩, h2, h3⟩
        exact ⟨h1, h2, h3⟩

theorem T.balB_iff (t : T α β) : t.balB = true ↔ t.Bal := by
  induction t with
  | nil => simp [T.balB, T.Bal]
  | node i l k v h r ihl ihr =>
    simp only [T.balB, T.Bal, Bool.and_eq_true, decide_eq_true_eq, ihl, ihr, and_assoc]

theorem Tree.nodupB_iff (l : List Nat) : Tree.nodupB l = true ↔ l.Nodup := by
  induction l with
  | nil => simp [Tree.nodupB]
  | cons a rest ih => simp [Tree.nodupB, ih]

theorem sortedE_iff_ascK [LinOrd α] (l : List (Entry α β)) : SortedE l ↔ AscK (l.map (·.2.1)) := by
  induction l with
  | nil => exact Iff.rfl
  | cons a rest ih =>
    simp only [SortedE, List.map_cons, AscK, ih, List.mem_map, forall_exists_index, and_imp,
      forall_apply_eq_imp_iff₂]

theorem T.sortedB_iff_bst [LinOrd α] (t : T α β) : T.sortedB t.keys = true ↔ t.Bst := by
  rw [T.bst_iff_sorted, sortedE_iff_ascK, T.sortedB_iff_ascK, T.keys]

/-- The driver's three executable checks (`wf-bst`, `wf-bal`, `wf-alloc`) together are the invariant. -/
theorem Tree.inv_iff_exec [LinOrd α] (c : TreeCfg) (s : Tree α β) (hw : c.wrap = true ∨ s.slots < c.W) :
    s.Inv c ↔ (T.sortedB s.root.keys = true ∧ s.root.balB = true ∧ s.allocB c = true) := by
  rw [T.sortedB_iff_bst, T.balB_iff]
  simp only [Tree.allocB, Bool.and_eq_true, decide_eq_true_eq, List.all_eq_true, Tree.nodupB_iff]
  constructor
  · intro h
    exact ⟨h.bst, h.bal, ⟨⟨⟨⟨⟨⟨h.nodup, h.range⟩, h.count⟩, h.seq_le⟩, h.cap_le⟩, h.slots_le⟩, h.size_eq⟩⟩
  · rintro ⟨h1, h2, ⟨⟨⟨⟨⟨⟨h3, h4⟩, h5⟩, h6⟩, h7⟩, h8⟩, h9⟩⟩
    exact ⟨h1, h2, h9, h3, h4, h5, h6, h7, h8, hw⟩

theorem HSet.nodupB_iff (l : List Nat) : HSet.nodupB l = true ↔ l.Nodup := by
  induction l with
  | nil => simp [HSet.nodupB]
  | cons a rest ih => simp [HSet.nodupB, ih]

theorem HSet.nodup_iff_prefix (ms : List β) :
    ms.Nodup ↔ ∀ j v, ms[j]? = some v → v ∉ ms.take j := by
  rw [List.nodup_iff_pairwise_ne, List.pairwise_iff_getElem]
  constructor
  · intro h j v hv hm
    obtain ⟨hj, rfl⟩ := List.getElem?_eq_some_iff.1 hv
    obtain ⟨i, hi, he⟩ := List.mem_take_iff_getElem.1 hm
    exact h i j (by omega) hj (by omega) he
  · intro h i j hi hj hij he
    exact h j ms[j] (List.getElem?_eq_getElem hj) (List.mem_take_iff_getElem.2 ⟨i, by omega, he⟩)

theorem HSet.prefixFree_iff [DecidableEq β] (ms : List β) :
    (ms.zipIdx.all fun (v, j) => !(ms.take j).contains v) = true ↔ ms.Nodup := by
  rw [HSet.nodup_iff_prefix]
  simp [List.all_eq_true, List.mem_zipIdx_iff_getElem?, Prod.forall]
  constructor
  · intro h j v hv; exact h v j hv
  · intro h v j hv; exact h j v hv

theorem HSet.placedB_iff [DecidableEq β] (hash : β → Nat) (s : HSet β) :
    s.placedB hash = true ↔
      (∀ b (ch : List (Nat × β)), s.chains[b]? = some ch → ∀ e ∈ ch, b < s.cap ∧ s.bucket hash e.2 = b) ∧
        s.members.Nodup := by
  unfold HSet.placedB
  rw [Bool.and_eq_true]
  show _ ∧ ((s.members.zipIdx.all fun (v, j) => !(s.members.take j).contains v) = true) ↔ _
  rw [HSet.prefixFree_iff]
  simp only [Bool.and_eq_true, decide_eq_true_eq, List.all_eq_true, List.mem_zipIdx_iff_getElem?, Prod.forall]
  constructor
  · rintro ⟨hp, hn⟩; exact ⟨fun b ch hb e he => hp ch b hb e he, hn⟩
  · rintro ⟨hp, hn⟩; exact ⟨fun ch b hb e he => hp b ch hb e he, hn⟩

/-- The driver's executable checks (`wf-alloc`, `wf-placed`) together are the invariant. -/
theorem HSet.inv_iff_exec [DecidableEq β] (hash : β → Nat) (s : HSet β) (hs : s.slots < 4294967295) :
    s.Inv hash ↔ (s.allocB = true ∧ s.placedB hash = true) := by
  rw [HSet.placedB_iff]
  simp only [HSet.allocB, Bool.and_eq_true, HSet.nodupB_iff, decide_eq_true_eq, List.all_eq_true]
  constructor
  · intro h
    exact ⟨⟨⟨⟨⟨⟨h.nodup, h.range⟩, h.count⟩, h.seq_le⟩, h.cap_le⟩, h.size_eq⟩, h.placed, h.nodupVals⟩
  · rintro ⟨⟨⟨⟨⟨⟨h3, h4⟩, h5⟩, h6⟩, h7⟩, h8⟩, hp, hn⟩
    exact ⟨hp, hn, h8, h3, h4, h5, h6, h7, hs⟩

/-- The driver's executable check (`wf-sorted`) is the invariant. -/
theorem ASet.inv_iff_exec (f : AFmt) (s : ASet Nat) :
    s.Inv f.keyOf f.prefixMax ↔ s.wfB f = true := by
  simp only [ASet.wfB, Bool.and_eq_true, decide_eq_true_eq, T.sortedB_iff_ascK]
  constructor
  · intro h; exact ⟨⟨h.len_le, h.len_leP⟩, h.sorted⟩
  · rintro ⟨⟨h1, h2⟩, h3⟩; exact ⟨h1, h2, h3⟩

end Stevia
