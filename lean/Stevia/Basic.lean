/-
  Stevia.Basic — shared vocabulary of the model: the order class the trees are
  parametric in, and the fault kinds; for the proofs, how a statement "the call
  succeeds with a result satisfying `P`" is used (`Except.of_ok`, `Except.of_ok₂`).

  No imports: everything under Stevia/Model and this file is core-only so that
  the driver links as a `lean_exe`.
-/
namespace Stevia

/-- A strict linear order with decidable `<`: all the AVL trees and the array
    set ever do with a key is compare it (`PartialOrd::lt/gt`, `Ord::cmp`). -/
class LinOrd (α : Type) extends LT α where
  decLt : ∀ a b : α, Decidable (a < b)
  irrefl : ∀ a : α, ¬ a < a
  trans : ∀ {a b c : α}, a < b → b < c → a < c
  tri : ∀ a b : α, a < b ∨ a = b ∨ b < a

instance {α : Type} [LinOrd α] (a b : α) : Decidable (a < b) := LinOrd.decLt a b

instance : LinOrd Nat where
  decLt := fun a b => inferInstanceAs (Decidable (a < b))
  irrefl := fun a => Nat.lt_irrefl a
  trans := fun h1 h2 => Nat.lt_trans h1 h2
  tri := fun a b => by omega

instance : LinOrd Int where
  decLt := fun a b => inferInstanceAs (Decidable (a < b))
  irrefl := fun a => Int.lt_irrefl a
  trans := fun h1 h2 => Int.lt_trans h1 h2
  tri := fun a b => by omega

namespace LinOrd
variable {α : Type} [LinOrd α]

theorem asymm {a b : α} (h : a < b) : ¬ b < a := fun h' => irrefl a (trans h h')

theorem ne_of_lt {a b : α} (h : a < b) : a ≠ b := fun e => by subst e; exact irrefl a h

theorem eq_of_not_lt {a b : α} (h1 : ¬ a < b) (h2 : ¬ b < a) : a = b := by
  rcases tri a b with h | h | h
  · exact absurd h h1
  · exact h
  · exact absurd h h2

theorem eq_of_not_lt_or {a b : α} (h : ¬ (a < b ∨ b < a)) : a = b :=
  eq_of_not_lt (fun h' => h (.inl h')) (fun h' => h (.inr h'))

end LinOrd

/-- The ways an operation of the Rust crate can fail to return normally.
    `overflow`: checked arithmetic (`+ 1`, `- 1`) with overflow checks on;
    `divZero`: `% capacity` with capacity 0; `panic`: an explicit `panic!`;
    `oob`: a bounds-checked index or slice outside the buffer. -/
inductive Fault where
  | overflow | divZero | panic | oob
deriving DecidableEq, Repr

def Fault.name : Fault → String
  | .overflow => "overflow" | .divZero => "divzero" | .panic => "panic" | .oob => "oob"

theorem Except.of_ok {ε α : Type} {x : Except ε α} {P : α → Prop} (h : ∃ a, x = .ok a ∧ P a) {a : α}
    (hx : x = .ok a) : P a := by
  obtain ⟨b, hb, hp⟩ := h
  rw [hb] at hx
  cases hx
  exact hp

theorem Except.of_ok₂ {ε α β : Type} {x : Except ε (α × β)} {P : α → β → Prop}
    (h : ∃ a b, x = .ok (a, b) ∧ P a b) {a : α} {b : β} (hx : x = .ok (a, b)) : P a b := by
  obtain ⟨a', b', hb, hp⟩ := h
  rw [hb] at hx
  cases hx
  exact hp

end Stevia
